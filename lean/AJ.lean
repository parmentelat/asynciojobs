-- root of the `AJ` library
import AJ.Model.Graph
import AJ.Model.Surgery
import AJ.Model.Build
import AJ.Model.Dot
import AJ.Model.DotLex
import AJ.Model.DotParse
import AJ.Spec
import AJ.Model.Run
import AJ.Model.Full
import AJ.Model.Flat
import AJ.Model.Why
import AJ.Model.Stats
import AJ.Props
-- configurations and examples on which the hypotheses of the theorems added after the audit of the statements are met
import AJ.Proofs.Gap1
import AJ.Proofs.Gap2
import AJ.Proofs.Gap3
import AJ.Proofs.Gap3S
import AJ.Proofs.Gap4
