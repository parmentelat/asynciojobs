/-
  Dynamic model, layer B ("full run"): layer A plus everything `co_run` / `co_shutdown` decide —
  when a run leaves its main loop (critical failure, all regular jobs done, expiry, cancellation from the
  enclosing scheduler — for the top-level run: from outside, `extCancel` —, failure of the orchestration code itself), what it cancels, how it shuts its jobs down, what it returns or raises, what
  `failed_time_out()` / `failed_critical()` then say.

  The state embeds a layer-A state and every event is mapped to layer-A events (`projA`), so every
  accepted history of this layer projects onto an accepted history of layer A (`Proofs/Refine.lean`).

  Transcribes (after the repairs recorded in known_findings.json):
    purescheduler.py  co_run (cancellation / orchestration-failure wrapper, with `try … finally` around its
                      `_tidy_tasks` — see CRASHED-TIDY in `stepB`), _co_run 992-1160, _abort_on_timeout 974-990, _tidy_tasks 698-725,
                      co_shutdown 864-912, _record_beginning / _remaining_timeout
    scheduler.py      Scheduler.co_run 114-136 (verdict conversion)
  Core Lean only.
-/
import AJ.Model.Run
namespace AJ.Full
open AJ.Run

/-- why a run left its main loop; `crashed`: an exception raised by the orchestration code itself inside `_co_run()`
    (a `_feedback()` message of the reaction that cannot be printed), caught by the wrapper `co_run()`
    (`except (asyncio.CancelledError, Exception):`), which tidies, shuts down and re-raises it -/
inductive Exit
  | success | critical | timeout | cancelled | crashed
  deriving DecidableEq, Repr, Inhabited

/-- where `co_run` of a scheduler is suspended -/
inductive PcB
  | notBegun
  | loop                    -- main `asyncio.wait`
  | tidy (x : Exit)         -- `_tidy_tasks`: waiting for the tasks it cancelled
  | shut (x : Exit)         -- `co_shutdown`: bounded wait for the shutdown handlers
  | shutTidy (x : Exit)     -- `co_shutdown`: waiting for the handlers it cancelled
  | over
  deriving DecidableEq, Repr, Inhabited

/-- who called `co_shutdown` of a scheduler: its own `co_run` (inline), or the shutdown broadcast of
    the enclosing scheduler (the task running it is the scheduler's "handler": a relay) -/
inductive Who
  | inline | relay
  deriving DecidableEq, Repr, Inhabited

/-- state of a scheduler's own shutdown broadcast -/
inductive Bc
  | bnone
  | bwait (w : Who)         -- `asyncio.wait(tasks, timeout=shutdown_timeout)`
  | btidy (w : Who)         -- `_tidy_tasks(pending)` after expiry or cancellation
  | bover
  deriving DecidableEq, Repr, Inhabited

/-- state of the task running `j.co_shutdown()` -/
inductive Hph
  | hnone | hactive | hdone | hcancelled
  deriving DecidableEq, Repr, Inhabited

structure StB where
  a         : StA
  pcB       : Nat → PcB
  /-- `nb_jobs_done` -/
  nbDone    : Nat → Nat
  /-- `_expiration` while the run is in its main loop -/
  deadline  : Nat → Option Nat
  /-- a `CancelledError` was delivered into `co_run` (at most once per run) -/
  carrived  : Nat → Bool
  /-- `_did_shutdown` -/
  didSd     : Nat → Bool
  bc        : Nat → Bc
  /-- `_expiration` during the bounded wait of `co_shutdown` -/
  hdeadline : Nat → Option Nat
  hph       : Nat → Hph
  /-- `cancel()` was called on the handler task and not acknowledged -/
  hcreq     : Nat → Bool
  /-- a `CancelledError` was delivered into the relayed `co_shutdown` -/
  hcarrived : Nat → Bool
  /-- number of times `co_shutdown()` was called on the job (ghost) -/
  hcalls    : Nat → Nat
  /-- `_failed_timeout is not False` -/
  failT     : Nat → Bool
  /-- `_failed_critical` -/
  failC     : Nat → Bool
  /-- value returned by the last `co_shutdown()` of the scheduler: `some true/false`, or `none` -/
  sdValue   : Nat → Option Bool
  /-- instant at which `co_run` of the scheduler began (ghost) -/
  tbegin    : Nat → Nat
  /-- instant at which the scheduler's shutdown broadcast began (ghost) -/
  tsd       : Nat → Nat

def StB.init : StB :=
  { a := StA.init, pcB := fun _ => .notBegun, nbDone := fun _ => 0, deadline := fun _ => none,
    carrived := fun _ => false, didSd := fun _ => false, bc := fun _ => .bnone, hdeadline := fun _ => none,
    hph := fun _ => .hnone, hcreq := fun _ => false, hcarrived := fun _ => false, hcalls := fun _ => 0,
    failT := fun _ => false, failC := fun _ => false, sdValue := fun _ => none,
    tbegin := fun _ => 0, tsd := fun _ => 0 }

inductive EvB
  | runBegin
  | grant (j : Nat)
  | bodyEnd (j : Nat) (ok : Bool)
  | cancelAck (j : Nat)
  /-- the `CancelledError` requested by the enclosing scheduler — for the top-level scheduler `0`: from outside,
      `extCancel` — is delivered into `co_run` of `s` -/
  | cancelArrive (s : Nat)
  /-- the main wait of `s` returns finished jobs -/
  | waitReturn (s : Nat)
  /-- `co_run` of `s` reacts to them: critical failure? all regular jobs done? deadline reached? else start
      successors -/
  | react (s : Nat)
  /-- instead of reacting, the orchestration code of `s` itself raises (one of the `_feedback()` calls of the
      reaction fails): `_co_run()` is left with that exception, the wrapper `co_run()` cleans up and re-raises it -/
  | orchFail (s : Nat)
  /-- the main wait of `s` returns nothing: its timeout elapsed -/
  | timeoutFire (s : Nat)
  /-- `_tidy_tasks` of `s` returns: every task it cancelled has finished; `pick` names the critical job
      whose exception a critical scheduler re-raises (Python takes the first one in set order) -/
  | tidyReturn (s : Nat) (pick : Nat)
  /-- first step of the task running `co_shutdown()` of nested scheduler `j` (relay) -/
  | hStep (j : Nat)
  /-- the shutdown handler of atomic job `j` ends -/
  | hEnd (j : Nat)
  /-- the cancelled shutdown handler of atomic job `j` finishes -/
  | hCancelAck (j : Nat)
  /-- a `CancelledError` is delivered into the relayed `co_shutdown()` of `s` -/
  | hCancelArrive (s : Nat)
  /-- the bounded wait of `co_shutdown` of `s` returns: all handlers done -/
  | sdWaitReturn (s : Nat) (pick : Nat)
  /-- … returns because `shutdown_timeout` elapsed -/
  | sdTimeoutFire (s : Nat)
  /-- `_tidy_tasks` of `co_shutdown` returns: every cancelled handler has finished -/
  | sdTidyReturn (s : Nat) (pick : Nat)
  | tick (d : Nat)
  /-- someone outside the tree calls `cancel()` on the task running `co_run()` of the top-level scheduler
      (`task.cancel()`, an enclosing `asyncio.wait_for` expiring): layer-A step `extCancel`, nothing else changes;
      the `CancelledError` is delivered by `cancelArrive 0` -/
  | extCancel
  deriving Repr, Inhabited

def liveChildren (c : Cfg) (st : StA) (s : Nat) : List Nat :=
  (c.children s).filter fun k => (st.ph k).live

def activeHandlers (c : Cfg) (st : StB) (s : Nat) : List Nat :=
  (c.children s).filter fun k => st.hph k == .hactive

def nbFinite (c : Cfg) (s : Nat) : Nat := ((c.children s).filter fun k => !c.forever k).length

/-- a critical job of `D` raised (1020-1040) -/
def critIn (c : Cfg) (st : StA) (D : List Nat) : Bool :=
  D.any fun d => c.critical d && (match st.ph d with | .done (.exc _) => true | _ => false)

/-- a deadline that has been reached -/
def expired (dl : Option Nat) (now : Nat) : Bool :=
  match dl with | some d => d ≤ now | none => false

/-- the clock may advance by `d` without passing the deadline -/
def within (dl : Option Nat) (now d : Nat) : Bool :=
  match dl with | some x => now + d ≤ x | none => true

def Bc.isWait : Bc → Bool | .bwait _ => true | _ => false
def Bc.isTidy : Bc → Bool | .btidy _ => true | _ => false
def Bc.who : Bc → Who | .bwait w => w | .btidy w => w | _ => .inline
def PcB.isTidy : PcB → Bool | .tidy _ => true | _ => false

/-- a cancellation was requested on the task running `co_run` of `s` and has not been delivered: whatever makes
    that task resume next, it resumes with `CancelledError` -/
def cancelPending (st : StB) (s : Nat) : Bool := st.a.creq s && !st.carrived s

/-- same for the task running a relayed `co_shutdown()` of `s` -/
def hcancelPending (st : StB) (s : Nat) : Bool := st.hcreq s && !st.hcarrived s

/-- the relay of `s` is inside its broadcast -/
def relayActive (st : StB) (s : Nat) : Bool := st.bc s == .bwait .relay || st.bc s == .btidy .relay

/-- is `s` a nestable `Scheduler` (converts `False` into an exception when critical)? -/
def nestable (c : Cfg) (s : Nat) : Bool := s != 0 || !c.topPure

/-- `co_shutdown` body once the guard `_did_shutdown` is passed: one handler task per job, deadline armed -/
def broadcast (c : Cfg) (st : StB) (s : Nat) (w : Who) : StB :=
  { st with
    didSd := setAt st.didSd s true
    hph := fun k => if k ∈ c.children s then .hactive else st.hph k
    hcreq := fun k => if k ∈ c.children s then false else st.hcreq k
    hcalls := fun k => if k ∈ c.children s then st.hcalls k + 1 else st.hcalls k
    hdeadline := setAt st.hdeadline s ((c.sdTimeout s).map (st.a.now + ·))
    tsd := setAt st.tsd s st.a.now
    bc := setAt st.bc s (.bwait w) }

/-- the value / exception `co_run` of `s` ends with, after exit `x` (purescheduler 1013-1059 + scheduler.py 114-136);
    `none` = ends cancelled -/
def verdict (c : Cfg) (st : StB) (s : Nat) (x : Exit) (pick : Nat) : Option (Option Res) :=
  match x with
  | .cancelled => some none
  -- the wrapper `co_run()` re-raises (`raise`) the exception of the orchestration code: `PureScheduler.co_run` never
  -- returns, so the conversion of `Scheduler.co_run` (scheduler.py 115-136) is not reached: critical or not,
  -- nestable or not, the run raises that very object
  | .crashed => some (some (.exc (.orch s)))
  | .success => some (some (.retBool true))
  | .timeout =>
    if nestable c s && c.critical s then some (some (.exc (.tmo s))) else some (some (.retBool false))
  | .critical =>
    if nestable c s && c.critical s then
      if pick ∈ c.children s ∧ c.critical pick = true then
        match st.a.ph pick with
        | .done (.exc e) => some (some (.exc e))
        | _ => none
      else none
    else some (some (.retBool false))

/-- `co_run` of `s` ends (its `co_shutdown` has returned) -/
def finishRun (c : Cfg) (st : StB) (s : Nat) (x : Exit) (pick : Nat) : Option StB :=
  match verdict c st s x pick with
  | none => none
  | some r =>
    match stepA c st.a (.finish s r) with
    | none => none
    | some a' =>
      -- (`_failed_timeout` and `_failed_critical` were recorded when the loop was left: `exitLoop`)
      some { st with a := a', pcB := setAt st.pcB s .over }

/-- the run of `s` leaves its main loop for reason `x`: `_tidy_tasks(pending)` (for `cancelled` and `crashed`: the
    `_tidy_tasks(unfinished tasks)` of the wrapper `co_run()`, the same set) cancels what is left;
    on expiry (`_abort_on_timeout`) `_failed_timeout`, on a critical failure `_failed_critical`, is recorded first,
    before the clean-up -/
def exitLoop (_c : Cfg) (st : StB) (s : Nat) (x : Exit) (a' : StA) : StB :=
  { st with a := a', pcB := setAt st.pcB s (.tidy x), deadline := setAt st.deadline s none,
            failT := setAt st.failT s (st.failT s || x == .timeout),
            failC := setAt st.failC s (st.failC s || x == .critical) }

/-- layer-B bookkeeping when `co_run` of `s` begins -/
def beginB (c : Cfg) (st : StB) (s : Nat) (a' : StA) : StB :=
  if (c.children s).isEmpty then { st with a := a', pcB := setAt st.pcB s .over, tbegin := setAt st.tbegin s st.a.now }
  else { st with a := a', pcB := setAt st.pcB s .loop, nbDone := setAt st.nbDone s 0,
                 tbegin := setAt st.tbegin s st.a.now,
                 deadline := setAt st.deadline s ((c.timeout s).map (st.a.now + ·)) }

/-- nothing that must happen "now" is pending (assumption A2: the clock does not advance meanwhile) -/
def quietB (c : Cfg) (st : StB) : Bool :=
  (List.range c.n).all fun j =>
    -- a queued job that could take a slot, or whose cancellation is pending
    !(0 < j && st.a.ph j == .queued && (st.a.creq j || slotFree c st.a (c.parent j))) &&
    -- a run (nested, or the top-level one cancelled from outside: no `0 < j`) whose cancellation has not been delivered
    !(c.isSched j && st.a.ph j == .running && st.a.creq j && !st.carrived j) &&
    -- a main wait that could return, a reaction that is pending
    !(c.isSched j && st.pcB j == .loop && (!(doneSet c st.a j).isEmpty || (st.a.rx j).isSome)) &&
    -- a tidy wait that could return
    !(c.isSched j && (st.pcB j).isTidy && (liveChildren c st.a j).isEmpty) &&
    -- a relay that has not had its first step, or whose cancellation has not been delivered
    !(c.isSched j && st.hph j == .hactive && !relayActive st j) &&
    !(c.isSched j && st.hph j == .hactive && st.hcreq j && !st.hcarrived j) &&
    -- a shutdown wait that could return
    !(c.isSched j && ((st.bc j).isWait || (st.bc j).isTidy) && (activeHandlers c st j).isEmpty)

def stepB (c : Cfg) (st : StB) : EvB → Option StB
  | .runBegin =>
    match stepA c st.a .runBegin with
    | none => none
    | some a' => some (beginB c st 0 a')
  | .grant j =>
    match stepA c st.a (.grant j) with
    | none => none
    | some a' => if c.isSched j then some (beginB c st j a') else some { st with a := a' }
  | .bodyEnd j ok =>
    match stepA c st.a (.bodyEnd j ok) with
    | none => none
    | some a' => some { st with a := a' }
  | .cancelAck j =>
    match stepA c st.a (.cancelAck j) with
    | none => none
    | some a' => some { st with a := a' }
  | .cancelArrive s =>
    -- (no `0 < s`: the wrapper `co_run()` is the same code for the top-level scheduler, whose task is cancelled from
    --  outside — `extCancel` — instead of by an enclosing scheduler)
    if s < c.n ∧ c.isSched s = true ∧ st.a.ph s = .running ∧ st.a.creq s = true ∧ st.carrived s = false then
      let st1 := { st with carrived := setAt st.carrived s true }
      match st.pcB s with
      | .loop =>
        -- raised out of the main wait: co_run's handler cancels the unfinished tasks and waits for them
        match stepA c st.a (.leave s (liveChildren c st.a s)) with
        | none => none
        | some a' => some (exitLoop c st1 s .cancelled a')
      -- (`.tidy .cancelled` / `.shut .cancelled` / `.shutTidy .cancelled` reached from the loop have `carrived`: the
      --  guard above excludes them; the exits below are `success`, `critical`, `timeout` — clean-up inside `_co_run()`,
      --  followed, once interrupted, by the clean-up of the wrapper — and `crashed` — clean-up inside the wrapper's
      --  `except` clause already, followed by nothing)
      | .tidy _ =>
        -- `_tidy_tasks` swallows the `CancelledError`, keeps waiting, and re-raises it once every task is finished.
        -- success/critical/timeout: it leaves `_co_run()`; the wrapper has nothing left to tidy, calls `co_shutdown()`
        -- and re-raises: the run goes on as one cancelled in its loop.
        -- crashed (CRASHED-TIDY): this `_tidy_tasks` is the wrapper's own, inside its `except` clause, and nothing
        -- follows the wrapper.  Transcribed is the wrapper AS REPAIRED:
        --     except (asyncio.CancelledError, Exception):
        --         try:
        --             await self._tidy_tasks([unfinished tasks])
        --         finally:
        --             await self.co_shutdown()
        --         raise
        -- the `CancelledError` re-raised by `_tidy_tasks` once every task is finished is still followed by
        -- `co_shutdown()` (the `finally`), after which it propagates: same transition as for the other exits — the tidy
        -- is completed, the shutdown broadcast takes place, the run ends cancelled.  (Before that repair the two
        -- `await`s were in sequence and the `CancelledError` left the `except` clause before `co_shutdown()`: the run
        -- ended cancelled without its shutdown broadcast, against C13 — `stepBAsIs` and its witness, section
        -- "why the wrapper needs `try … finally`" of `Proofs/ExitB.lean`.)
        some { st1 with pcB := setAt st.pcB s (.tidy .cancelled) }
      | .shut _ =>
        -- raised out of co_shutdown's wait: the handlers are cancelled and awaited (`except CancelledError` of
        -- `co_shutdown()`), then the `CancelledError` is re-raised.  success/critical/timeout: out of `_co_run()`, the
        -- wrapper finds nothing to tidy and `co_shutdown()` returns at once (`_did_shutdown`).  crashed (as for a run
        -- cancelled in its loop, were a second cancellation possible): it leaves the wrapper's `except` clause
        -- directly, replacing the orchestration's exception.  Either way the run ends cancelled once the handlers
        -- are finished: same transition.
        some { st1 with pcB := setAt st.pcB s (.shutTidy .cancelled), bc := setAt st.bc s (.btidy .inline),
                        hcreq := fun k => st.hcreq k || decide (k ∈ activeHandlers c st s) }
      | .shutTidy _ =>
        -- `_tidy_tasks(pending)` of `co_shutdown()` swallows it, keeps waiting for the handlers it cancelled, then
        -- re-raises: out of `co_shutdown()`, and from there as in the case above — for `crashed` too the run ends
        -- cancelled (the `CancelledError` replaces the exception the wrapper was about to re-raise)
        some { st1 with pcB := setAt st.pcB s (.shutTidy .cancelled) }
      | _ => none
    else none
  | .waitReturn s =>
    if st.pcB s = .loop ∧ cancelPending st s = false then
      match stepA c st.a (.waitReturn s) with
      | none => none
      | some a' => some { st with a := a' }
    else none
  | .react s =>
    match st.pcB s, st.a.rx s with
    | .loop, some D =>
      if cancelPending st s then none else
      if critIn c st.a D then
        match stepA c st.a (.react s true (liveChildren c st.a s)) with
        | none => none
        | some a' => some (exitLoop c st s .critical a')
      else
        let nb := st.nbDone s + (D.filter fun d => !c.forever d).length
        if nb = nbFinite c s then
          match stepA c st.a (.react s true (liveChildren c st.a s)) with
          | none => none
          | some a' => some (exitLoop c { st with nbDone := setAt st.nbDone s nb } s .success a')
        else if expired (st.deadline s) st.a.now then
          -- the deadline is behind us although `wait()` reported completions: `_abort_on_timeout`
          match stepA c st.a (.react s true (liveChildren c st.a s)) with
          | none => none
          | some a' => some (exitLoop c { st with nbDone := setAt st.nbDone s nb } s .timeout a')
        else
          match stepA c st.a (.react s false []) with
          | none => none
          | some a' => some { st with a := a', nbDone := setAt st.nbDone s nb }
    | _, _ => none
  | .orchFail s =>
    -- enabled exactly where `react s` is; nothing is counted (`nbDone`), no successor is started, `_failed_timeout` /
    -- `_failed_critical` keep the `False` they were reset to (`exitLoop` only sets them for `timeout` / `critical`);
    -- the wrapper's `_tidy_tasks` calls `cancel()` on every unfinished task
    match st.pcB s, st.a.rx s with
    | .loop, some _ =>
      if cancelPending st s then none else
      match stepA c st.a (.react s true (liveChildren c st.a s)) with
      | none => none
      | some a' => some (exitLoop c st s .crashed a')
    | _, _ => none
  | .timeoutFire s =>
    if st.pcB s = .loop ∧ cancelPending st s = false ∧ st.a.rx s = none ∧ doneSet c st.a s = [] ∧
       expired (st.deadline s) st.a.now = true then
      match stepA c st.a (.leave s (liveChildren c st.a s)) with
      | none => none
      | some a' => some (exitLoop c st s .timeout a')
    else none
  | .tidyReturn s pick =>
    match st.pcB s with
    | .tidy x =>
      if liveChildren c st.a s = [] ∧ cancelPending st s = false then
        if st.didSd s then
          -- `co_shutdown()` returns None at once
          finishRun c { st with sdValue := setAt st.sdValue s none } s x pick
        else
          some { (broadcast c st s .inline) with pcB := setAt st.pcB s (.shut x) }
      else none
    | _ => none
  | .hStep j =>
    if 0 < j ∧ j < c.n ∧ c.isSched j = true ∧ st.hph j = .hactive ∧ relayActive st j = false then
      if st.didSd j then
        -- `if self._did_shutdown: return` (None)
        some { st with hph := setAt st.hph j .hdone, sdValue := setAt st.sdValue j none }
      else
        -- (an empty scheduler has no handler to wait for: its `sdWaitReturn` is enabled at once)
        some (broadcast c st j .relay)
    else none
  | .hEnd j =>
    if 0 < j ∧ j < c.n ∧ c.isSched j = false ∧ st.hph j = .hactive ∧ st.hcreq j = false then
      some { st with hph := setAt st.hph j .hdone }
    else none
  | .hCancelAck j =>
    if 0 < j ∧ j < c.n ∧ c.isSched j = false ∧ st.hph j = .hactive ∧ st.hcreq j = true then
      some { st with hph := setAt st.hph j .hcancelled, hcreq := setAt st.hcreq j false }
    else none
  | .hCancelArrive s =>
    if 0 < s ∧ s < c.n ∧ c.isSched s = true ∧ st.hph s = .hactive ∧ st.hcreq s = true ∧ st.hcarrived s = false then
      let st1 := { st with hcarrived := setAt st.hcarrived s true }
      match st.bc s with
      | .bwait .relay =>
        some { st1 with bc := setAt st.bc s (.btidy .relay),
                        hcreq := fun k => st1.hcreq k || decide (k ∈ activeHandlers c st s) }
      | .btidy .relay => some st1
      | _ => none
    else none
  | .sdWaitReturn s pick =>
    if activeHandlers c st s = [] ∧ cancelPending st s = false ∧ hcancelPending st s = false then
      match st.bc s with
      | .bwait .inline =>
        match st.pcB s with
        | .shut x => finishRun c { st with bc := setAt st.bc s .bover, sdValue := setAt st.sdValue s (some true) } s x pick
        | _ => none
      | .bwait .relay =>
        some { st with bc := setAt st.bc s .bover, sdValue := setAt st.sdValue s (some true), hph := setAt st.hph s .hdone }
      | _ => none
    else none
  | .sdTimeoutFire s =>
    if (st.bc s).isWait = true ∧ activeHandlers c st s ≠ [] ∧ expired (st.hdeadline s) st.a.now = true ∧
       cancelPending st s = false ∧ hcancelPending st s = false then
      let w := (st.bc s).who
      some { st with bc := setAt st.bc s (.btidy w),
                     hcreq := fun k => st.hcreq k || decide (k ∈ activeHandlers c st s),
                     pcB := match w, st.pcB s with
                            | .inline, .shut x => setAt st.pcB s (.shutTidy x)
                            | _, _ => st.pcB }
    else none
  | .sdTidyReturn s pick =>
    if activeHandlers c st s = [] ∧ cancelPending st s = false ∧ hcancelPending st s = false then
      match st.bc s with
      | .btidy .inline =>
        match st.pcB s with
        | .shutTidy x => finishRun c { st with bc := setAt st.bc s .bover, sdValue := setAt st.sdValue s (some false) } s x pick
        | _ => none
      | .btidy .relay =>
        some { st with bc := setAt st.bc s .bover, sdValue := setAt st.sdValue s (some false),
                       hph := setAt st.hph s (if st.hcarrived s then .hcancelled else .hdone),
                       hcreq := setAt st.hcreq s false }
      | _ => none
    else none
  | .tick d =>
    if quietB c st = true ∧
       (∀ s ∈ List.range c.n, st.pcB s = .loop → within (st.deadline s) st.a.now d = true) ∧
       (∀ s ∈ List.range c.n, (st.bc s).isWait = true → within (st.hdeadline s) st.a.now d = true) then
      match stepA c st.a (.tick d) with
      | none => none
      | some a' => some { st with a := a' }
    else none
  | .extCancel =>
    match stepA c st.a .extCancel with
    | none => none
    | some a' => some { st with a := a' }

def acceptB (c : Cfg) : StB → List EvB → Option StB
  | st, [] => some st
  | st, e :: es => match stepB c st e with
    | some st' => acceptB c st' es
    | none => none

end AJ.Full
