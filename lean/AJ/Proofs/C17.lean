/-
  C17 — neighbour, reachability and traversal queries agree with the requirements.
  That entry and exit jobs exist (`C15.entry_exists`, `C15.exit_exists`) is in C15Aux.lean, next to `topo_order`.
-/
import AJ.Proofs.Tree
import AJ.Proofs.ListSet
namespace AJ.Proofs.C17

section fold
variable (f : Nat → List Nat)

theorem foldU_eq (init as : List Nat) :
    as.foldl (fun acc a => unionNew acc (f a)) init = unionNew init (as.flatMap f) := by
  induction as generalizing init with
  | nil => rfl
  | cons a as ih => rw [List.foldl_cons, ih, List.flatMap_cons, unionNew_append]

theorem mem_foldU (init as : List Nat) (y : Nat) :
    y ∈ as.foldl (fun acc a => unionNew acc (f a)) init ↔ y ∈ init ∨ ∃ a ∈ as, y ∈ f a := by
  rw [foldU_eq, mem_unionNew, List.mem_flatMap]

theorem nodup_foldU (init as : List Nat) (h : init.Nodup) :
    (as.foldl (fun acc a => unionNew acc (f a)) init).Nodup :=
  foldU_eq f init as ▸ nodup_unionNew _ _ h

theorem prefix_foldU (init as : List Nat) : init <+: as.foldl (fun acc a => unionNew acc (f a)) init :=
  foldU_eq f init as ▸ prefix_unionNew _ _

end fold

theorem mem_neigh (t : T) (s : Nat) (up : Bool) (starts : List Nat) (x : Nat) :
    x ∈ neigh t s up starts ↔ ∃ a ∈ starts, Link t s up a x := by
  unfold neigh
  rw [mem_foldU]
  cases up <;> simp [links, succOf, Link, and_comm]

theorem pred_iff (t : T) (s : Nat) (starts : List Nat) (x : Nat) :
    x ∈ predecessors t s starts ↔ ∃ a ∈ starts, x ∈ t.req a ∧ x ∈ t.mem s :=
  (mem_neigh t s true starts x).trans (exists_congr fun _ => and_congr_right fun _ => and_comm)

theorem succ_iff (t : T) (s : Nat) (starts : List Nat) (x : Nat) :
    x ∈ successors t s starts ↔ ∃ a ∈ starts, a ∈ t.req x ∧ x ∈ t.mem s :=
  (mem_neigh t s false starts x).trans (exists_congr fun _ => and_congr_right fun _ => and_comm)

/-- `_neighbours` returns a set (no duplicates) -/
theorem neigh_nodup (t : T) (s : Nat) (up : Bool) (starts : List Nat) : (neigh t s up starts).Nodup := by
  unfold neigh
  exact nodup_foldU _ _ _ List.nodup_nil

/-- one pass of the `while True` of `_neighbours_closure` -/
def pass (t : T) (s : Nat) (up : Bool) (cl : List Nat) : List Nat :=
  cl.foldl (fun acc a => unionNew acc (neigh t s up [a])) cl

theorem closureLoop_succ (t : T) (s : Nat) (up : Bool) (fuel : Nat) (cl : List Nat) :
    closureLoop t s up (fuel + 1) cl =
      if (pass t s up cl).length = cl.length then cl else closureLoop t s up fuel (pass t s up cl) := rfl

theorem mem_pass {t : T} {s : Nat} {up : Bool} {cl : List Nat} {y : Nat} :
    y ∈ pass t s up cl ↔ y ∈ cl ∨ ∃ a ∈ cl, Link t s up a y := by
  unfold pass
  rw [mem_foldU]
  simp [mem_neigh]

/-- the result is the least list that contains `cl` and is closed under `Link` (the last conjunct is its induction
    principle); every pass that does not stop adds a member, whence the fuel -/
theorem closureLoop_spec (t : T) (s : Nat) (up : Bool) :
    ∀ (fuel : Nat) (cl r : List Nat), closureLoop t s up fuel cl = r → cl.Nodup → (∀ x ∈ cl, x ∈ t.mem s) →
      (t.mem s).length + 1 ≤ fuel + cl.length →
      r.Nodup ∧ (∀ x ∈ cl, x ∈ r) ∧ (∀ a ∈ r, ∀ y, Link t s up a y → y ∈ r) ∧
      (∀ P : Nat → Prop, (∀ x ∈ cl, P x) → (∀ a y, P a → Link t s up a y → P y) → ∀ x ∈ r, P x) := by
  intro fuel
  induction fuel with
  | zero =>
    intro cl r _ hnd hsub hfuel
    have := hnd.length_le_of_subset hsub
    omega
  | succ fuel ih =>
    intro cl r hr hnd hsub hfuel
    have hpre : cl <+: pass t s up cl := prefix_foldU ..
    rw [closureLoop_succ] at hr
    split at hr
    · -- the pass only appends, so with the same length it has added nothing: `cl` holds its neighbours
      next heq =>
      subst hr
      refine ⟨hnd, fun x hx => hx, fun a ha y hl => ?_, fun P hP _ x hx => hP x hx⟩
      rw [hpre.eq_of_length heq.symm]
      exact mem_pass.2 (Or.inr ⟨a, ha, hl⟩)
    · have hle := hpre.length_le
      obtain ⟨r1, r2, r3, r4⟩ := ih (pass t s up cl) r hr (nodup_foldU _ _ _ hnd)
        (fun x hx => (mem_pass.1 hx).elim (hsub x) fun ⟨_, _, hl⟩ => hl.1) (by omega)
      refine ⟨r1, fun x hx => r2 x (mem_pass.2 (Or.inl hx)), r3, fun P hP hstep => r4 P (fun x hx => ?_) hstep⟩
      rcases mem_pass.1 hx with h | ⟨a, ha, hl⟩
      · exact hP x h
      · exact hstep a x (hP a ha) hl

theorem closure_spec (t : T) (s : Nat) (up : Bool) (starts : List Nat) :
    (closure t s up starts).Nodup ∧
      (∀ x ∈ neigh t s up starts, x ∈ closure t s up starts) ∧
      (∀ a ∈ closure t s up starts, ∀ y, Link t s up a y → y ∈ closure t s up starts) ∧
      (∀ P : Nat → Prop, (∀ x ∈ neigh t s up starts, P x) → (∀ a y, P a → Link t s up a y → P y) →
        ∀ x ∈ closure t s up starts, P x) := by
  refine closureLoop_spec t s up _ _ _ rfl (neigh_nodup t s up starts) (fun x hx => ?_) (by omega)
  obtain ⟨a, _, hl⟩ := (mem_neigh t s up starts x).1 hx
  exact hl.1

/-- `predecessors_upstream` / `successors_downstream`: exactly the members reachable through one or more
    links, from any of the start jobs; in particular the fuel `|mem s| + 1` always suffices -/
theorem closure_iff (t : T) (s : Nat) (up : Bool) (starts : List Nat) (x : Nat) :
    x ∈ closure t s up starts ↔ ∃ a ∈ starts, ReachL t s up a x := by
  obtain ⟨_, hinit, hclosed, hind⟩ := closure_spec t s up starts
  constructor
  · intro hx
    refine hind (fun x => ∃ a ∈ starts, ReachL t s up a x) ?_ ?_ x hx
    · intro y hy
      obtain ⟨a, ha, hl⟩ := (mem_neigh t s up starts y).1 hy
      exact ⟨a, ha, ReachL.single hl⟩
    · rintro a y ⟨b, hb, hr⟩ hl
      exact ⟨b, hb, ReachL.tail hr hl⟩
  · rintro ⟨a, ha, hr⟩
    induction hr with
    | single hl => exact hinit _ ((mem_neigh t s up starts _).2 ⟨a, ha, hl⟩)
    | tail _ hl ih => exact hclosed _ ih _ hl

theorem closure_nodup (t : T) (s : Nat) (up : Bool) (starts : List Nat) : (closure t s up starts).Nodup :=
  (closure_spec t s up starts).1

theorem entry_iff (t : T) (s x : Nat) : x ∈ entryJobs t s ↔ x ∈ t.mem s ∧ t.req x = [] := by
  simp [entryJobs, List.mem_filter, List.isEmpty_iff]

theorem exit_iff (t : T) (s x : Nat) (discard : Bool) :
    x ∈ exitJobs t s discard ↔
      x ∈ t.mem s ∧ ¬ (discard = true ∧ t.forever x = true) ∧ ∀ y ∈ t.mem s, x ∉ t.req y := by
  cases discard <;>
    simp [exitJobs, succOf, List.mem_filter, List.isEmpty_iff, List.filter_eq_nil_iff]

theorem mem_scanHead (scan : Bool) (s x : Nat) : x ∈ (if scan = true then [s] else []) ↔ x = s ∧ scan = true := by
  cases scan <;> simp

theorem iterate_sub (t : T) (scan : Bool) (x : Nat) :
    ∀ (fuel s : Nat), t.isSched s = true → x ∈ iterateJobs t scan fuel s → In t s x := by
  intro fuel
  induction fuel with
  | zero => intro s _ h; cases h
  | succ fuel ih =>
    intro s hs h
    unfold iterateJobs at h
    rw [List.mem_append, List.mem_flatMap, mem_scanHead] at h
    obtain ⟨rfl, _⟩ | ⟨j, hj, h⟩ := h
    · exact .root ..
    · refine .of_child hs hj ?_
      split at h
      · exact ih j ‹_› h
      · exact Or.inl (List.mem_singleton.1 h)

/-- `iterate_jobs()` visits exactly the jobs of the subtree: atomic ones only, or schedulers too (the start
    scheduler included) when `scan_schedulers` -/
theorem iterate_mem (t : T) (fuel s : Nat) (scan : Bool) (x : Nat)
    (hs : t.isSched s = true) (hlt : s < t.n) (hfuel : t.n - s ≤ fuel)
    (hwf : ∀ s', (s' = s ∨ Desc t s s') → ∀ k ∈ t.mem s', s' < k ∧ k < t.n) :
    x ∈ iterateJobs t scan fuel s ↔
      ((Desc t s x ∧ (t.isSched x = false ∨ scan = true)) ∨ (x = s ∧ scan = true)) := by
  refine fuel_ind t (fun fuel s => x ∈ iterateJobs t scan fuel s ↔
    ((Desc t s x ∧ (t.isSched x = false ∨ scan = true)) ∨ (x = s ∧ scan = true)))
    (fun fuel s hs hih => ?_) fuel s hs hlt hfuel fun s' h _ => hwf s' h
  unfold iterateJobs
  rw [List.mem_append, List.mem_flatMap, mem_scanHead]
  constructor
  · rintro (h | ⟨j, hj, h⟩)
    · exact Or.inr h
    · left
      by_cases hjs : t.isSched j = true
      · rw [if_pos hjs, hih j hj hjs] at h
        rcases h with ⟨hd, hc⟩ | ⟨rfl, hc⟩
        · exact ⟨Desc.deeper hs hj hd, hc⟩
        · exact ⟨Desc.child hs hj, Or.inr hc⟩
      · rw [if_neg hjs] at h
        simp at h; subst h
        exact ⟨Desc.child hs hj, Or.inl (by simpa using hjs)⟩
  · rintro (⟨hd, hc⟩ | h)
    · right
      cases hd with
      | child _ hk =>
        refine ⟨x, hk, ?_⟩
        by_cases hxs : t.isSched x = true
        · rw [if_pos hxs, hih x hk hxs]
          exact Or.inr ⟨rfl, hc.resolve_left (by simp [hxs])⟩
        · rw [if_neg hxs]; simp
      | @deeper _ k _ _ hk hd' =>
        refine ⟨k, hk, ?_⟩
        rw [if_pos hd'.sched, hih k hk hd'.sched]
        exact Or.inl ⟨hd', hc⟩
    · exact Or.inl h

/-- … exactly once -/
theorem iterate_nodup (t : T) (fuel s : Nat) (scan : Bool)
    (hs : t.isSched s = true) (hlt : s < t.n) (hfuel : t.n - s ≤ fuel)
    (hwf : ∀ s', (s' = s ∨ Desc t s s') → ∀ k ∈ t.mem s', s' < k ∧ k < t.n)
    (hnd : ∀ s', (s' = s ∨ Desc t s s') → (t.mem s').Nodup)
    (hatomic : ∀ k, t.isSched k = false → t.mem k = [])
    (huniq : ∀ s1 s2 k, (s1 = s ∨ Desc t s s1) → (s2 = s ∨ Desc t s s2) → k ∈ t.mem s1 → k ∈ t.mem s2 → s1 = s2) :
    (iterateJobs t scan fuel s).Nodup := by
  refine fuel_ind t (fun fuel s => C16.TreeAt t s → (∀ s', In t s s' → (t.mem s').Nodup) →
    (iterateJobs t scan fuel s).Nodup) (fun fuel s hs ih htree hnd => ?_) fuel s hs hlt hfuel
    (fun s' h _ => hwf s' h) ⟨hwf, hatomic, huniq⟩ hnd
  have piece : ∀ j ∈ t.mem s,
      (if t.isSched j = true then iterateJobs t scan fuel j else [j]).Nodup ∧
      ∀ x ∈ (if t.isSched j = true then iterateJobs t scan fuel j else [j]), In t j x := by
    intro j hj
    split
    · next hjs =>
      exact ⟨ih j hj hjs (htree.sub hs hj) fun s' h => hnd s' (.of_child hs hj h),
        fun x => iterate_sub t scan x fuel j hjs⟩
    · exact ⟨by simp, fun x hx => Or.inl (List.mem_singleton.1 hx)⟩
  unfold iterateJobs
  refine List.nodup_append.2 ⟨by cases scan <;> simp, ?_, ?_⟩
  · exact htree.nodup_blocks hs _ _ (hnd s (.root ..)) (fun _ h => h) piece
  · -- the head `s` is above everything else
    rintro a ha b hb rfl
    obtain ⟨j, hj, hx⟩ := List.mem_flatMap.1 hb
    obtain rfl := ((mem_scanHead ..).1 ha).1
    have := (htree.desc_lt (.of_child hs hj ((piece j hj).2 a hx))).1
    omega

end AJ.Proofs.C17
