/-
  C16 — sanitize() closes the requirement relation minimally and reports truthfully.  One equation says what the pass
  leaves of each requirement list (`sanitize_req_eq`, over the schedulers it goes through: `Vis`); the rest follows.
-/
import AJ.Proofs.Tree
namespace AJ.Proofs.C16

def step (members : List Nat) (fuel : Nat) (acc : T × Bool) (j : Nat) : T × Bool :=
  let t1 := acc.1.setReq j ((acc.1.req j).filter (· ∈ members))
  let ch1 := acc.2 || ((acc.1.req j).length != ((acc.1.req j).filter (· ∈ members)).length)
  if acc.1.isSched j then ((sanitize t1 fuel j).1, (!(sanitize t1 fuel j).2) || ch1) else (t1, ch1)

theorem sanitize_succ (t : T) (fuel s : Nat) :
    sanitize t (fuel + 1) s =
      (((t.mem s).foldl (step (t.mem s) fuel) (t, false)).1,
        !((t.mem s).foldl (step (t.mem s) fuel) (t, false)).2) := rfl

theorem setReq_req (a : T) (j : Nat) (r : List Nat) (x : Nat) :
    (a.setReq j r).req x = if x = j then r else a.req x := rfl

def Frame (a t : T) : Prop :=
  a.mem = t.mem ∧ a.isSched = t.isSched ∧ a.forever = t.forever ∧ a.critical = t.critical ∧ a.n = t.n

theorem Frame.refl (t : T) : Frame t t := ⟨rfl, rfl, rfl, rfl, rfl⟩

theorem Frame.trans {a b c : T} (h1 : Frame a b) (h2 : Frame b c) : Frame a c :=
  ⟨h1.1.trans h2.1, h1.2.1.trans h2.2.1, h1.2.2.1.trans h2.2.2.1,
    h1.2.2.2.1.trans h2.2.2.2.1, h1.2.2.2.2.trans h2.2.2.2.2⟩

theorem Frame.setReq (a : T) (j : Nat) (r : List Nat) : Frame (a.setReq j r) a :=
  ⟨rfl, rfl, rfl, rfl, rfl⟩

theorem step_frame {fuel : Nat} (ih : ∀ t j, Frame (sanitize t fuel j).1 t) (m : List Nat) (b : T × Bool)
    (j : Nat) : Frame (step m fuel b j).1 b.1 := by
  unfold step
  dsimp only
  split
  · exact (ih _ j).trans (Frame.setReq ..)
  · exact Frame.setReq ..

/-- sanitize never touches membership, flags, or anything but `req` -/
theorem sanitize_frame (t : T) (fuel s : Nat) :
    (sanitize t fuel s).1.mem = t.mem ∧ (sanitize t fuel s).1.isSched = t.isSched ∧
    (sanitize t fuel s).1.forever = t.forever ∧ (sanitize t fuel s).1.critical = t.critical ∧
    (sanitize t fuel s).1.n = t.n := by
  induction fuel generalizing t s with
  | zero => exact Frame.refl t
  | succ fuel ih =>
    rw [sanitize_succ]
    exact List.foldlRecOn (motive := fun b : T × Bool => Frame b.1 t) (t.mem s) (step (t.mem s) fuel)
      (Frame.refl t) fun b hb j _ => (step_frame ih ..).trans hb

/-- the schedulers that `sanitize t fuel s` goes through: `s`, then with the fuel left the nested ones -/
def Vis (t : T) : Nat → Nat → Nat → Prop
  | 0, _, _ => False
  | fuel + 1, s, s' => s' = s ∨ ∃ j ∈ t.mem s, t.isSched j = true ∧ Vis t fuel j s'

theorem Vis.in {t : T} {s' fuel : Nat} : ∀ {s}, t.isSched s = true → Vis t fuel s s' →
    In t s s' ∧ t.isSched s' = true := by
  induction fuel with
  | zero => exact fun _ h => h.elim
  | succ fuel ih =>
    rintro s hs (rfl | ⟨j, hj, hjs, h⟩)
    · exact ⟨.root .., hs⟩
    · exact ⟨.of_child hs hj (ih hjs h).1, (ih hjs h).2⟩

theorem Vis.of_in {t : T} {fuel s : Nat} (hs : t.isSched s = true) (hlt : s < t.n) (hfuel : t.n - s ≤ fuel)
    (hW : ∀ s', In t s s' → ∀ k ∈ t.mem s', s' < k ∧ k < t.n) :
    ∀ s', In t s s' → t.isSched s' = true → Vis t fuel s s' := by
  refine fuel_ind t (fun fuel s => ∀ s', In t s s' → t.isSched s' = true → Vis t fuel s s')
    (fun fuel s _ ih s' hin hs' => ?_) fuel s hs hlt hfuel fun s' h _ => hW s' h
  rcases hin with rfl | hd
  · exact Or.inl rfl
  · obtain ⟨k, hk, hin⟩ := hd.first
    exact Or.inr ⟨k, hk, hin.sched hs', ih k hk (hin.sched hs') s' hin hs'⟩

section keep
open Classical
variable {P Q : Nat → Prop} {l : List Nat}

/-- `l` filtered by a predicate that need not be decidable: the form in which the loop invariant is stated -/
noncomputable def keep (P : Nat → Prop) (l : List Nat) : List Nat := l.filter fun y => decide (P y)

theorem keep_congr (h : ∀ y ∈ l, (P y ↔ Q y)) : keep P l = keep Q l :=
  List.filter_congr fun y hy => decide_eq_decide.2 (h y hy)

theorem keep_keep : keep P (keep Q l) = keep (fun y => P y ∧ Q y) l := by
  simp only [keep, List.filter_filter, Bool.decide_and]

theorem keep_true (h : ∀ y ∈ l, P y) : keep P l = l :=
  List.filter_eq_self.2 fun y hy => decide_eq_true_iff.2 (h y hy)

theorem keep_mem (m : List Nat) (h : ∀ y ∈ l, (P y ↔ y ∈ m)) : keep P l = l.filter (· ∈ m) :=
  List.filter_congr fun y hy => decide_eq_decide.2 (h y hy)

end keep

/-- what `sanitize` does, for any tree and fuel: the requirements of `x` are filtered by the members of every
    scheduler gone through that has `x` as a member. `t0` gives the shape (members, kinds), which `sanitize`
    does not change; the tree hypotheses only serve to say which schedulers these are -/
theorem sanitize_req_eq (t0 : T) (x : Nat) : ∀ (fuel : Nat) (a : T) (s : Nat), Frame a t0 →
    (sanitize a fuel s).1.req x =
      keep (fun y => ∀ s', Vis t0 fuel s s' → x ∈ t0.mem s' → y ∈ t0.mem s') (a.req x)
  | 0, a, s, _ => (keep_true fun y _ s' h => (h : False).elim).symm
  | fuel + 1, a, s, ha => by
    rw [sanitize_succ, ha.1]
    -- the loop over a list `l` of members, from any state `b`: `x` is filtered by `mem s` when `l` comes to it,
    -- and by what the recursive calls on the schedulers of `l` go through
    suffices h : ∀ (l : List Nat) (b : T × Bool), Frame b.1 t0 →
        (l.foldl (step (t0.mem s) fuel) b).1.req x = keep (fun y => (x ∈ l → y ∈ t0.mem s) ∧
          ∀ j ∈ l, t0.isSched j = true → ∀ s', Vis t0 fuel j s' → x ∈ t0.mem s' → y ∈ t0.mem s') (b.1.req x) by
      rw [h _ _ ha]
      refine keep_congr fun y _ => ⟨?_, fun h => ⟨h s (Or.inl rfl), fun j hj hjs s' hv =>
        h s' (Or.inr ⟨j, hj, hjs, hv⟩)⟩⟩
      rintro ⟨h1, h2⟩ s' (rfl | ⟨j, hj, hjs, hv⟩)
      · exact h1
      · exact h2 j hj hjs s' hv
    intro l
    induction l with
    | nil => intro b _; exact (keep_true fun y _ => ⟨nofun, nofun⟩).symm
    | cons j l ih =>
      intro b hb
      have h1 : (step (t0.mem s) fuel b j).1.req x = keep (fun y => (x = j → y ∈ t0.mem s) ∧
          (t0.isSched j = true → ∀ s', Vis t0 fuel j s' → x ∈ t0.mem s' → y ∈ t0.mem s')) (b.1.req x) := by
        have h0 : (b.1.setReq j ((b.1.req j).filter (· ∈ t0.mem s))).req x =
            keep (fun y => x = j → y ∈ t0.mem s) (b.1.req x) := by
          rw [setReq_req]
          split
          · next h => subst h; exact (keep_mem _ fun y _ => ⟨fun h => h rfl, fun h _ => h⟩).symm
          · next h => exact (keep_true fun y _ h' => absurd h' h).symm
        unfold step
        dsimp only
        rw [hb.2.1]
        split
        · next hjs =>
          rw [sanitize_req_eq t0 x fuel _ j ((Frame.setReq ..).trans hb), h0, keep_keep]
          exact keep_congr fun y _ => ⟨fun h => ⟨h.2, fun _ => h.1⟩, fun h => ⟨h.2 hjs, h.1⟩⟩
        · next hjs => rw [h0]; exact keep_congr fun y _ => ⟨fun h => ⟨h, fun h' => absurd h' hjs⟩, And.left⟩
      rw [List.foldl_cons, ih _ ((step_frame (sanitize_frame · fuel ·) ..).trans hb), h1, keep_keep]
      refine keep_congr fun y _ => ?_
      simp only [List.mem_cons, or_imp, forall_and, forall_eq]
      exact ⟨fun ⟨⟨a, b⟩, c, d⟩ => ⟨⟨c, a⟩, d, b⟩, fun ⟨⟨c, a⟩, d, b⟩ => ⟨⟨a, b⟩, c, d⟩⟩

theorem req_sublist (t : T) (fuel s x : Nat) : ((sanitize t fuel s).1.req x).Sublist (t.req x) := by
  rw [sanitize_req_eq t x fuel t s (Frame.refl t)]
  exact List.filter_sublist

/-- the fold invariant for the flag: `c` is "something was removed so far" -/
def FlagInv (t : T) (a : T) (c : Bool) : Prop :=
  (c = false ↔ ∀ x, a.req x = t.req x) ∧ ∀ x, (a.req x).Sublist (t.req x)

theorem FlagInv.sub {t a a' : T} {c f : Bool} (hq : FlagInv t a c)
    (hf : f = true ↔ ∀ x, a'.req x = a.req x) (hsub : ∀ x, (a'.req x).Sublist (a.req x)) :
    FlagInv t a' (!f || c) := by
  refine ⟨⟨fun h x => ?_, fun h => ?_⟩, fun x => (hsub x).trans (hq.2 x)⟩
  · rw [Bool.or_eq_false_iff, Bool.not_eq_false'] at h
    rw [hf.1 h.1 x, hq.1.1 h.2 x]
  · -- `a'.req x` is a sublist of `a.req x`, itself a sublist of `t.req x`: equal ends squeeze the middle
    have key : ∀ x, a.req x = t.req x := fun x =>
      (hq.2 x).eq_of_length_le (by rw [← h x]; exact (hsub x).length_le)
    simp [hq.1.2 key, hf.2 fun x => by rw [h x, key x]]

theorem FlagInv.filter {t a : T} {c : Bool} (hq : FlagInv t a c) (j : Nat) (p : Nat → Bool) :
    FlagInv t (a.setReq j ((a.req j).filter p))
      (c || ((a.req j).length != ((a.req j).filter p).length)) := by
  have := hq.sub (a' := a.setReq j ((a.req j).filter p))
    (f := ((a.req j).length == ((a.req j).filter p).length)) ?_ ?_
  · rw [Bool.or_comm]; exact this
  · rw [beq_iff_eq]
    refine ⟨fun h x => ?_, fun h => congrArg List.length ((h j).symm.trans (if_pos rfl))⟩
    rw [setReq_req]
    split
    · next hx => rw [hx, List.filter_eq_self.2 (List.length_filter_eq_length_iff.1 h.symm)]
    · rfl
  · intro x
    rw [setReq_req]
    split
    · next hx => exact hx ▸ List.filter_sublist
    · exact List.Sublist.refl _

theorem sanitize_flag_iff : ∀ (fuel : Nat) (t : T) (s : Nat),
    (sanitize t fuel s).2 = true ↔ ∀ x, (sanitize t fuel s).1.req x = t.req x
  | 0, t, _ => by simp [sanitize]
  | fuel + 1, t, s => by
    rw [sanitize_succ]
    have h : FlagInv t ((t.mem s).foldl (step (t.mem s) fuel) (t, false)).1
        ((t.mem s).foldl (step (t.mem s) fuel) (t, false)).2 := by
      refine List.foldlRecOn (motive := fun b : T × Bool => FlagInv t b.1 b.2) (t.mem s) (step (t.mem s) fuel)
        ?_ ?_
      · exact ⟨by simp, fun x => List.Sublist.refl _⟩
      · intro b hb j _
        have h1 := hb.filter j (· ∈ t.mem s)
        unfold step
        dsimp only
        split
        · exact h1.sub (sanitize_flag_iff fuel _ j) fun x => req_sublist ..
        · exact h1
    rw [← h.1]
    simp

/-- minimality and closure in one statement: every member `x` of every scheduler `s'` of the subtree keeps
    exactly those of its requirements that are members of `s'`; every other job is untouched -/
theorem sanitize_req (t : T) (fuel s : Nat) (hs : t.isSched s = true) (hlt : s < t.n)
    (hfuel : t.n - s ≤ fuel) (htree : TreeAt t s) :
    (∀ s', (s' = s ∨ Desc t s s') → t.isSched s' = true → ∀ x ∈ t.mem s',
        (sanitize t fuel s).1.req x = (t.req x).filter (· ∈ t.mem s')) ∧
    (∀ x, (∀ s', (s' = s ∨ Desc t s s') → t.isSched s' = true → x ∉ t.mem s') →
        (sanitize t fuel s).1.req x = t.req x) := by
  have hin := fun s' => Vis.in (fuel := fuel) (s' := s') hs
  refine ⟨fun s' hd hs' x hx => ?_, fun x hx => ?_⟩ <;> rw [sanitize_req_eq t x fuel t s (Frame.refl t)]
  · refine keep_mem _ fun y _ => ⟨fun h => h s' (Vis.of_in hs hlt hfuel htree.lt s' hd hs') hx, fun hy s'' hv hx' => ?_⟩
    rwa [htree.unique s'' s' x (hin s'' hv).1 hd hx' hx]
  · exact keep_true fun y _ s' hv hx' => absurd hx' (hx s' (hin s' hv).1 (hin s' hv).2)

/-- after sanitize, the scheduler and every nested scheduler is closed -/
theorem sanitize_closed (t : T) (fuel s : Nat) (hs : t.isSched s = true) (hlt : s < t.n)
    (hfuel : t.n - s ≤ fuel) (htree : TreeAt t s) :
    ∀ s', (s' = s ∨ Desc t s s') → t.isSched s' = true → Closed (sanitize t fuel s).1 s' := by
  intro s' hd hs' x hx y hy
  have hfr := sanitize_frame t fuel s
  rw [hfr.1] at hx ⊢
  rw [(sanitize_req t fuel s hs hlt hfuel htree).1 s' hd hs' x hx] at hy
  simpa using (List.mem_filter.1 hy).2

set_option linter.unusedVariables false in
/-- the boolean is `true` iff nothing was removed anywhere (no hypothesis is used) -/
theorem sanitize_flag (t : T) (fuel s : Nat) (hs : t.isSched s = true) (hlt : s < t.n)
    (hfuel : t.n - s ≤ fuel) (htree : TreeAt t s) :
    (sanitize t fuel s).2 = true ↔ ∀ x, (sanitize t fuel s).1.req x = t.req x :=
  sanitize_flag_iff fuel t s

set_option linter.unusedVariables false in
/-- a second call returns `true` and changes nothing (no hypothesis is used: filtering twice is filtering once) -/
theorem sanitize_idempotent (t : T) (fuel s : Nat) (hs : t.isSched s = true) (hlt : s < t.n)
    (hfuel : t.n - s ≤ fuel) (htree : TreeAt t s) :
    (sanitize (sanitize t fuel s).1 fuel s).2 = true ∧
    (sanitize (sanitize t fuel s).1 fuel s).1.req = (sanitize t fuel s).1.req := by
  have key : ∀ x, (sanitize (sanitize t fuel s).1 fuel s).1.req x = (sanitize t fuel s).1.req x := fun x => by
    rw [sanitize_req_eq t x fuel _ s (sanitize_frame t fuel s), sanitize_req_eq t x fuel t s (Frame.refl t),
      keep_keep]
    exact keep_congr fun y _ => and_self_iff
  exact ⟨(sanitize_flag_iff fuel _ s).2 key, funext key⟩

end AJ.Proofs.C16
