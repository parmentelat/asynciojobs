/-
  Layer A as a transition relation.  `StepA` has one constructor per branch of `stepA`, with the guard as named
  hypotheses and the post-state written out.  It is the relation of the lax model (`stepAL`: `tick` has no urgency
  guard); the strict model adds `Calm` to `tick` (`stepA_iff`).

  A fact about one step is proved in one of two ways.  From a change to its cause: by the lemma for the component
  that changed (`ph_cases`, `rx_cases`, … : all that one step can do to that component of one job, each alternative
  with its event and guard; for `rflag`: `HistA.step_rflag`).  From an event to its effect: by `cases` on the step once
  its event is a constructor application, which leaves the one to three constructors for that event.  In the
  post-states of the top-level scheduler the index is the literal `0`, at which `setAt f 0 x 0` reduces by evaluation:
  `rfl` proves there what `setAt_self` proves at a variable index, and `setAt_self ..` does not unify.
-/
import AJ.Model.Lax
import AJ.Proofs.Runs
namespace AJ.Run

@[simp] theorem setAt_self {α : Type} (f : Nat → α) (j : Nat) (x : α) : setAt f j x j = x := by simp [setAt]

theorem setAt_of_ne {α : Type} (f : Nat → α) {j k : Nat} (x : α) (h : k ≠ j) : setAt f j x k = f k := by
  simp [setAt, h]

theorem setAt_elim {α : Type} {f : Nat → α} {s s' : Nat} {q : α} (P : α → Prop) (h : P (setAt f s q s'))
    (hq : ¬ P q) : s' ≠ s ∧ P (f s') := by
  by_cases e : s' = s
  · subst e; rw [setAt_self] at h; exact absurd h hq
  · rw [setAt_of_ne _ _ e] at h; exact ⟨e, h⟩

theorem setAt_congr {α β : Type} (g : α → β) {f : Nat → α} {s : Nat} {q : α} (h : g q = g (f s)) (s' : Nat) :
    g (setAt f s q s') = g (f s') := by
  by_cases e : s' = s
  · subst e; rw [setAt_self, h]
  · rw [setAt_of_ne _ _ e]

theorem setAt_cases {α : Type} (f : Nat → α) (j : Nat) (x : α) (k : Nat) :
    k ≠ j ∧ setAt f j x k = f k ∨ k = j ∧ setAt f j x k = x := by
  by_cases h : k = j <;> simp [setAt, h]

theorem setAt_setAt {α : Type} (f : Nat → α) (j : Nat) (x y : α) : setAt (setAt f j x) j y = setAt f j y := by
  funext k; simp only [setAt]; split <;> rfl

theorem setAt_eq_self {α : Type} (f : Nat → α) (j : Nat) : setAt f j (f j) = f := by
  funext k; simp only [setAt]; split <;> simp [*]

theorem mem_children {c : Cfg} {s k : Nat} : k ∈ c.children s ↔ k < c.n ∧ k ≠ 0 ∧ c.parent k = s := by
  simp [Cfg.children, List.mem_filter, List.mem_range]

theorem zero_not_child {c : Cfg} (s : Nat) : 0 ∉ c.children s := fun h => (mem_children.1 h).2.1 rfl

theorem children_inj {c : Cfg} {s s' k : Nat} (h : k ∈ c.children s) (h' : k ∈ c.children s') : s = s' :=
  (mem_children.1 h).2.2.symm.trans (mem_children.1 h').2.2

theorem mem_entrySet {c : Cfg} {s k : Nat} : k ∈ entrySet c s ↔ k ∈ c.children s ∧ c.req k = [] := by
  simp [entrySet, List.mem_filter]

theorem mem_doneSet {c : Cfg} {st : StA} {s k : Nat} :
    k ∈ doneSet c st s ↔ k ∈ c.children s ∧ ((st.ph k).isDone = true ∨ st.ph k = .cancelled) ∧ st.deliv k = false := by
  simp [doneSet, List.mem_filter]

theorem deliv_of_doneSet_nil {c : Cfg} {a : StA} {s k : Nat} (hds : doneSet c a s = []) (hk : k ∈ c.children s)
    (hd : (a.ph k).isDone = true) : a.deliv k = true :=
  Bool.of_not_eq_false fun hdv => List.not_mem_nil (hds ▸ mem_doneSet.2 ⟨hk, Or.inl hd, hdv⟩)

theorem mem_startCands {c : Cfg} {st : StA} {s k : Nat} {D : List Nat} :
    k ∈ startCands c st s D ↔
      k ∈ c.children s ∧ st.ph k = .idle ∧ (∃ r ∈ c.req k, r ∈ D) ∧ ∀ r ∈ c.req k, (st.ph r).isDone = true := by
  simp [startCands, List.mem_filter, and_assoc]

theorem startJobs_ph_cases (a : StA) (S : List Nat) (k : Nat) :
    (startJobs a S).ph k = a.ph k ∨ (k ∈ S ∧ a.ph k = .idle ∧ (startJobs a S).ph k = .queued) := by
  simp only [startJobs]; split <;> simp_all

theorem startJobs_isDone (a : StA) (S : List Nat) (k : Nat) : ((startJobs a S).ph k).isDone = (a.ph k).isDone := by
  rcases startJobs_ph_cases a S k with h | ⟨_, hi, hq⟩
  · rw [h]
  · rw [hi, hq]; rfl

theorem startJobs_idle {a : StA} {S : List Nat} {k : Nat} (h : (startJobs a S).ph k = .idle) :
    a.ph k = .idle ∧ k ∉ S := by
  rcases startJobs_ph_cases a S k with h1 | ⟨_, _, hq⟩
  · refine ⟨h1 ▸ h, fun hS => ?_⟩
    simp [startJobs, hS, h1 ▸ h] at h
  · simp [hq] at h

theorem isDone_iff {p : Ph} : p.isDone = true ↔ ∃ r, p = .done r := by cases p <;> simp [Ph.isDone]

/-- the phase in which the task of a scheduler ends: it returned or raised `r`, or (`none`) was cancelled -/
def finPh : Option Res → Ph
  | some r => .done r
  | none => .cancelled

@[simp] theorem finPh_eq_done {r : Option Res} {r' : Res} : finPh r = .done r' ↔ r = some r' := by
  cases r <;> simp [finPh]

@[simp] theorem finPh_live (r : Option Res) : (finPh r).live = false := by cases r <;> rfl

theorem finPh_final (r : Option Res) : (finPh r).isDone = true ∨ finPh r = .cancelled := by
  cases r <;> simp [finPh, Ph.isDone]

theorem finPh_ne_running (r : Option Res) : finPh r ≠ .running := by cases r <;> simp [finPh]

inductive StepA (c : Cfg) (a : StA) : EvA → StA → Prop
  | runBeginEmpty (hph : a.ph 0 = .idle) (hpc : a.pc 0 = .notBegun) (he : c.children 0 = []) :
      StepA c a .runBegin
        { a with ph := setAt a.ph 0 (.done (.retBool true)), rflag := setAt a.rflag 0 true, pc := setAt a.pc 0 .over }
  | runBegin (hph : a.ph 0 = .idle) (hpc : a.pc 0 = .notBegun) (he : c.children 0 ≠ []) :
      StepA c a .runBegin
        (startJobs { a with ph := setAt a.ph 0 .running, rflag := setAt a.rflag 0 true, pc := setAt a.pc 0 .loop,
                            qcount := setAt a.qcount 0 0, rx := setAt a.rx 0 none } (entrySet c 0))
  | grantJob {j} (hj0 : 0 < j) (hjn : j < c.n) (hph : a.ph j = .queued) (hcr : a.creq j = false)
      (hslot : slotFree c a (c.parent j) = true) (hs : c.isSched j = false) :
      StepA c a (.grant j)
        { a with ph := setAt a.ph j .running, rflag := setAt a.rflag j true,
                 qcount := setAt a.qcount (c.parent j) (a.qcount (c.parent j) + 1),
                 entries := setAt a.entries j (a.entries j + 1) }
  | grantEmpty {j} (hj0 : 0 < j) (hjn : j < c.n) (hph : a.ph j = .queued) (hcr : a.creq j = false)
      (hslot : slotFree c a (c.parent j) = true) (hs : c.isSched j = true) (he : c.children j = []) :
      StepA c a (.grant j)
        { a with ph := setAt a.ph j (.done (.retBool true)), rflag := setAt a.rflag j true, pc := setAt a.pc j .over,
                 entries := setAt a.entries j (a.entries j + 1) }
  | grantSched {j} (hj0 : 0 < j) (hjn : j < c.n) (hph : a.ph j = .queued) (hcr : a.creq j = false)
      (hslot : slotFree c a (c.parent j) = true) (hs : c.isSched j = true) (he : c.children j ≠ []) :
      StepA c a (.grant j)
        (startJobs { a with ph := setAt a.ph j .running, rflag := setAt a.rflag j true, pc := setAt a.pc j .loop,
                            qcount := setAt (setAt a.qcount (c.parent j) (a.qcount (c.parent j) + 1)) j 0,
                            rx := setAt a.rx j none, entries := setAt a.entries j (a.entries j + 1) } (entrySet c j))
  | bodyEnd {j ok} (hj0 : 0 < j) (hjn : j < c.n) (hs : c.isSched j = false) (hph : a.ph j = .running)
      (hcr : a.creq j = false) :
      StepA c a (.bodyEnd j ok)
        (release c { a with ph := setAt a.ph j (.done (if ok then .retOwn else .exc (.byJob j))) } j)
  | cancelQueued {j} (hj0 : 0 < j) (hjn : j < c.n) (hcr : a.creq j = true) (hph : a.ph j = .queued) :
      StepA c a (.cancelAck j) { a with ph := setAt a.ph j .cancelled, creq := setAt a.creq j false }
  | cancelRunning {j} (hj0 : 0 < j) (hjn : j < c.n) (hcr : a.creq j = true) (hph : a.ph j = .running)
      (hs : c.isSched j = false) :
      StepA c a (.cancelAck j) (release c { a with ph := setAt a.ph j .cancelled, creq := setAt a.creq j false } j)
  | waitReturn {s} (hsn : s < c.n) (hs : c.isSched s = true) (hpc : a.pc s = .loop) (hrx : a.rx s = none)
      (hD : doneSet c a s ≠ []) :
      StepA c a (.waitReturn s)
        { a with deliv := fun k => a.deliv k || decide (k ∈ doneSet c a s), rx := setAt a.rx s (some (doneSet c a s)) }
  | reactLeave {s K D} (hrx : a.rx s = some D) (hsn : s < c.n) (hs : c.isSched s = true) (hpc : a.pc s = .loop)
      (hK : ∀ k ∈ K, k ∈ c.children s ∧ (a.ph k).live = true) :
      StepA c a (.react s true K)
        { a with rx := setAt a.rx s none, pc := setAt a.pc s .exiting, creq := fun k => a.creq k || decide (k ∈ K) }
  | reactGo {s D} (hrx : a.rx s = some D) (hsn : s < c.n) (hs : c.isSched s = true) (hpc : a.pc s = .loop) :
      StepA c a (.react s false [])
        (startJobs { a with rx := setAt a.rx s none } (startCands c { a with rx := setAt a.rx s none } s D))
  | leave {s K} (hsn : s < c.n) (hs : c.isSched s = true) (hpc : a.pc s = .loop)
      (hK : ∀ k ∈ K, k ∈ c.children s ∧ (a.ph k).live = true) :
      StepA c a (.leave s K)
        { a with pc := setAt a.pc s .exiting, rx := setAt a.rx s none, creq := fun k => a.creq k || decide (k ∈ K) }
  | finishTop {r} (hs : c.isSched 0 = true) (hn : 0 < c.n) (hpc : a.pc 0 = .exiting) (hph : a.ph 0 = .running) :
      StepA c a (.finish 0 r)
        { a with pc := setAt a.pc 0 .over, ph := setAt a.ph 0 (finPh r),
                 creq := setAt a.creq 0 false }
  | finish {s r} (hs0 : s ≠ 0) (hsn : s < c.n) (hs : c.isSched s = true) (hpc : a.pc s = .exiting)
      (hph : a.ph s = .running) :
      StepA c a (.finish s r)
        (release c { a with pc := setAt a.pc s .over,
                            ph := setAt a.ph s (finPh r),
                            creq := setAt a.creq s false } s)
  | tick {d} (hd : 0 < d) : StepA c a (.tick d) { a with now := a.now + d }
  | extCancel (hph : a.ph 0 = .running) (hcr : a.creq 0 = false) :
      StepA c a .extCancel { a with creq := setAt a.creq 0 true }

/-- nothing is urgent: the guard of the strict model's `tick` (assumption A2) -/
def Calm (c : Cfg) (a : StA) : Prop :=
  (∀ j ∈ List.range c.n, ¬ (0 < j ∧ a.ph j = .queued ∧ a.creq j = false ∧ slotFree c a (c.parent j) = true)) ∧
  (∀ s ∈ List.range c.n, ¬ (c.isSched s = true ∧ a.pc s = .loop ∧ (doneSet c a s ≠ [] ∨ a.rx s ≠ none)))

theorem beginRun_of_empty {c : Cfg} {a : StA} {s : Nat} (he : c.children s = []) :
    beginRun c a s = { a with ph := setAt a.ph s (.done (.retBool true)), pc := setAt a.pc s .over } := by
  simp [beginRun, he]

theorem beginRun_of_ne {c : Cfg} {a : StA} {s : Nat} (he : c.children s ≠ []) :
    beginRun c a s =
      startJobs { a with pc := setAt a.pc s .loop, qcount := setAt a.qcount s 0, rx := setAt a.rx s none }
        (entrySet c s) := by
  simp [beginRun, he]

theorem stepAL_iff {c : Cfg} {a a' : StA} {e : EvA} : stepAL c a e = some a' ↔ StepA c a e a' := by
  constructor
  · intro h
    cases e <;> simp only [stepAL, stepA, Option.ite_none_right_eq_some, Option.some.injEq] at h
    case runBegin =>
      obtain ⟨hg, rfl⟩ := h
      by_cases he : c.children 0 = []
      · rw [beginRun_of_empty he]; simp only [setAt_setAt]; exact .runBeginEmpty hg.1 hg.2 he
      · rw [beginRun_of_ne he]; exact .runBegin hg.1 hg.2 he
    case grant j =>
      obtain ⟨⟨h0, hn, hq, hc, hsl⟩, h⟩ := h
      by_cases hs : c.isSched j = true
      · rw [if_pos hs] at h
        cases h
        by_cases he : c.children j = []
        · rw [beginRun_of_empty he]
          simp only [he, List.isEmpty_nil, if_true, release, setAt_setAt, setAt_self, Nat.add_sub_cancel,
            setAt_eq_self]
          exact .grantEmpty h0 hn hq hc hsl hs he
        · rw [beginRun_of_ne he, if_neg (by simpa using he)]
          exact .grantSched h0 hn hq hc hsl hs he
      · rw [if_neg hs] at h
        cases h
        exact .grantJob h0 hn hq hc hsl (by simpa using hs)
    case bodyEnd j ok =>
      obtain ⟨hg, rfl⟩ := h
      exact .bodyEnd hg.1 hg.2.1 hg.2.2.1 hg.2.2.2.1 hg.2.2.2.2
    case cancelAck j =>
      obtain ⟨⟨h0, hn, hc, hq | ⟨hr, hs⟩⟩, rfl⟩ := h
      · rw [if_neg (by simp [hq])]; exact .cancelQueued h0 hn hc hq
      · rw [if_pos hr]; exact .cancelRunning h0 hn hc hr hs
    case waitReturn s =>
      obtain ⟨hg, rfl⟩ := h
      exact .waitReturn hg.1 hg.2.1 hg.2.2.1 hg.2.2.2.1 hg.2.2.2.2
    case react s lv K =>
      cases hD : a.rx s with
      | none => rw [hD] at h; cases h
      | some D =>
        rw [hD] at h
        simp only [Option.ite_none_right_eq_some] at h
        obtain ⟨⟨hn, hs, hpc, hlv, hK⟩, h⟩ := h
        cases lv
        · obtain rfl : K = [] := hlv.resolve_left (by simp)
          cases h
          exact .reactGo hD hn hs hpc
        · cases h
          exact .reactLeave hD hn hs hpc hK
    case leave s K =>
      obtain ⟨hg, rfl⟩ := h
      exact .leave hg.1 hg.2.1 hg.2.2.1 hg.2.2.2
    case finish s r =>
      obtain ⟨hg, rfl⟩ := h
      by_cases h0 : s = 0
      · subst h0; exact .finishTop hg.2.1 hg.1 hg.2.2.1 hg.2.2.2
      · rw [if_neg h0]; exact .finish h0 hg.1 hg.2.1 hg.2.2.1 hg.2.2.2
    case tick d =>
      obtain ⟨hd, rfl⟩ := h
      exact .tick hd
    case extCancel =>
      obtain ⟨hg, rfl⟩ := h
      exact .extCancel hg.1 hg.2
  · intro h
    cases h
    case finishTop r _ _ _ _ => cases r <;> simp_all [stepAL, stepA, finPh]
    case finish r _ _ _ _ _ => cases r <;> simp_all [stepAL, stepA, finPh]
    all_goals simp_all [stepAL, stepA, beginRun_of_empty, beginRun_of_ne, setAt_setAt, release, setAt_eq_self]

theorem stepAL_of_not_tick {c : Cfg} {a : StA} {e : EvA} (h : ∀ d, e ≠ .tick d) : stepAL c a e = stepA c a e := by
  cases e <;> first | rfl | exact (h _ rfl).elim

theorem stepA_iff {c : Cfg} {a a' : StA} {e : EvA} :
    stepA c a e = some a' ↔ StepA c a e a' ∧ ∀ d, e = .tick d → Calm c a := by
  by_cases ht : ∃ d, e = .tick d
  · obtain ⟨d, rfl⟩ := ht
    constructor
    · intro h
      simp only [stepA] at h
      split at h <;> cases h
      next hg => exact ⟨.tick hg.1, fun _ _ => hg.2⟩
    · rintro ⟨h, hc⟩
      cases h
      next hd => simp only [stepA]; rw [if_pos ⟨hd, hc d rfl⟩]
  · rw [← stepAL_of_not_tick fun d hd => ht ⟨d, hd⟩, stepAL_iff]
    exact ⟨fun h => ⟨h, fun d hd => (ht ⟨d, hd⟩).elim⟩, And.left⟩

theorem StepA.of_stepA {c : Cfg} {a a' : StA} {e : EvA} (h : stepA c a e = some a') : StepA c a e a' :=
  (stepA_iff.1 h).1

theorem StepA.to_stepA {c : Cfg} {a a' : StA} {e : EvA} (h : StepA c a e a') (ht : ∀ d, e ≠ .tick d) :
    stepA c a e = some a' :=
  stepA_iff.2 ⟨h, fun d hd => (ht d hd).elim⟩

theorem StepA.runBegin_inv {c : Cfg} {a a' : StA} (h : StepA c a .runBegin a') : a.ph 0 = .idle ∧ a.pc 0 = .notBegun := by
  cases h <;> exact ⟨‹_›, ‹_›⟩

theorem StepA.grant_inv {c : Cfg} {a a' : StA} {j : Nat} (h : StepA c a (.grant j) a') :
    0 < j ∧ j < c.n ∧ a.ph j = .queued ∧ a.creq j = false ∧ slotFree c a (c.parent j) = true := by
  cases h <;> exact ⟨‹_›, ‹_›, ‹_›, ‹_›, ‹_›⟩

theorem StepA.bodyEnd_inv {c : Cfg} {a a' : StA} {j : Nat} {ok : Bool} (h : StepA c a (.bodyEnd j ok) a') :
    0 < j ∧ j < c.n ∧ c.isSched j = false ∧ a.ph j = .running ∧ a.creq j = false := by
  cases h; exact ⟨‹_›, ‹_›, ‹_›, ‹_›, ‹_›⟩

theorem StepA.leave_eq {c : Cfg} {a a' : StA} {e : EvA} {s : Nat} {K : List Nat} (h : StepA c a e a')
    (he : e = .leave s K ∨ e = .react s true K) :
    a' = { a with pc := setAt a.pc s .exiting, rx := setAt a.rx s none, creq := fun k => a.creq k || decide (k ∈ K) } := by
  rcases he with rfl | rfl <;> cases h <;> rfl

theorem StepA.finish_ph {c : Cfg} {a a' : StA} {s : Nat} {r : Option Res} (h : StepA c a (.finish s r) a') :
    a'.ph = setAt a.ph s (finPh r) := by
  cases h <;> rfl

theorem isRunA (c : Cfg) : IsRun (stepA c) (acceptA c) :=
  ⟨fun _ => rfl, fun s e es => by simp only [acceptA]; cases stepA c s e <;> rfl⟩

theorem isRunAL (c : Cfg) : IsRun (stepAL c) (acceptAL c) :=
  ⟨fun _ => rfl, fun s e es => by simp only [acceptAL]; cases stepAL c s e <;> rfl⟩

/-- what one step does to the task of job `j`.  Read by name: `match ph_cases h j with | .granted (was := hq) .. => …`.
    In such a pattern the binders are given all by name or all by position (a named one whose type mentions a
    positional one does not elaborate), and an equation about a variable of the theorem is bound and substituted:
    `rfl` is not accepted as its pattern. -/
inductive PhStep (c : Cfg) (a : StA) (e : EvA) (a' : StA) (j : Nat) : Prop
  | same (ph : a'.ph j = a.ph j)
  /-- the run of its scheduler creates it: in its main loop, or as it begins -/
  | created (was : a.ph j = .idle) (ph : a'.ph j = .queued) (child : j ∈ c.children (c.parent j))
      (parent : a.pc (c.parent j) = .loop ∨ (e = .runBegin ∧ c.parent j = 0 ∧ a.pc 0 = .notBegun) ∨
        (e = .grant (c.parent j) ∧ c.isSched (c.parent j) = true ∧ a.ph (c.parent j) = .queued))
      (reqs : ∀ r ∈ c.req j, (a.ph r).isDone = true)
  | topBegins (ev : e = .runBegin) (top : j = 0) (was : a.ph j = .idle)
      (ph : a'.ph j = (if c.children 0 = [] then .done (.retBool true) else .running))
  | granted (ev : e = .grant j) (was : a.ph j = .queued) (creq : a.creq j = false)
      (ph : a'.ph j = (if c.isSched j = true ∧ c.children j = [] then .done (.retBool true) else .running))
  | bodyEnds (ok : Bool) (ev : e = .bodyEnd j ok) (atomic : c.isSched j = false) (was : a.ph j = .running)
      (creq : a.creq j = false) (ph : a'.ph j = .done (if ok then .retOwn else .exc (.byJob j)))
  | cancelAcked (ev : e = .cancelAck j) (creq : a.creq j = true)
      (was : a.ph j = .queued ∨ a.ph j = .running ∧ c.isSched j = false) (ph : a'.ph j = .cancelled)
  | finished (r : Option Res) (ev : e = .finish j r) (sched : c.isSched j = true) (pcWas : a.pc j = .exiting)
      (was : a.ph j = .running) (ph : a'.ph j = finPh r) (pc : a'.pc j = .over)

section
variable {c : Cfg} {a a' : StA} {e : EvA} (h : StepA c a e a')
include h

theorem ph_cases (j : Nat) : PhStep c a e a' j := by
  -- the run of `s` creates the tasks of the idle jobs among `S` (when it begins, and in each reaction)
  have created : ∀ (b : StA) (S : List Nat) (s : Nat), b.ph j = a.ph j →
      (∀ k ∈ S, k ∈ c.children s ∧ ∀ r ∈ c.req k, (a.ph r).isDone = true) →
      (a.pc s = .loop ∨ (e = .runBegin ∧ s = 0 ∧ a.pc 0 = .notBegun) ∨
        (e = .grant s ∧ c.isSched s = true ∧ a.ph s = .queued)) → PhStep c a e (startJobs b S) j := by
    intro b S s hb hS hwhy
    rcases startJobs_ph_cases b S j with h1 | ⟨hm, hi, hq⟩
    · exact .same (h1.trans hb)
    · have ⟨hc, hr⟩ := hS j hm
      obtain rfl := (mem_children.1 hc).2.2
      exact .created (hb ▸ hi) hq hc hwhy hr
  cases h
  case tick | extCancel | waitReturn | reactLeave | leave => exact .same rfl
  case runBeginEmpty hph hpc he =>
    by_cases hj : j = 0
    · subst hj; exact .topBegins rfl rfl hph (by simp [he])
    · exact .same (setAt_of_ne _ _ hj)
  case runBegin hph hpc he =>
    by_cases hj : j = 0
    · subst hj; exact .topBegins rfl rfl hph (by simp [startJobs, he])
    · exact created _ _ 0 (setAt_of_ne _ _ hj)
        (fun k hk => ⟨(mem_entrySet.1 hk).1, by simp [(mem_entrySet.1 hk).2]⟩) (.inr (.inl ⟨rfl, rfl, hpc⟩))
  case grantJob j0 hj0 hjn hph hcr hslot hs =>
    by_cases hj : j = j0
    · subst hj; exact .granted rfl hph hcr (by simp [hs])
    · exact .same (setAt_of_ne _ _ hj)
  case grantEmpty j0 hj0 hjn hph hcr hslot hs he =>
    by_cases hj : j = j0
    · subst hj; exact .granted rfl hph hcr (by simp [hs, he])
    · exact .same (setAt_of_ne _ _ hj)
  case grantSched j0 hj0 hjn hph hcr hslot hs he =>
    by_cases hj : j = j0
    · subst hj; exact .granted rfl hph hcr (by simp [startJobs, he])
    · exact created _ _ j0 (setAt_of_ne _ _ hj)
        (fun k hk => ⟨(mem_entrySet.1 hk).1, by simp [(mem_entrySet.1 hk).2]⟩) (.inr (.inr ⟨rfl, hs, hph⟩))
  case reactGo s D hrx hsn hs hpc =>
    exact created _ _ s rfl (fun k hk => ⟨(mem_startCands.1 hk).1, (mem_startCands.1 hk).2.2.2⟩) (.inl hpc)
  case bodyEnd j0 ok hj0 hjn hs hph hcr =>
    by_cases hj : j = j0
    · subst hj; exact .bodyEnds ok rfl hs hph hcr (setAt_self ..)
    · exact .same (setAt_of_ne _ _ hj)
  case cancelQueued j0 hj0 hjn hcr hph =>
    by_cases hj : j = j0
    · subst hj; exact .cancelAcked rfl hcr (.inl hph) (setAt_self ..)
    · exact .same (setAt_of_ne _ _ hj)
  case cancelRunning j0 hj0 hjn hcr hph hs =>
    by_cases hj : j = j0
    · subst hj; exact .cancelAcked rfl hcr (.inr ⟨hph, hs⟩) (setAt_self ..)
    · exact .same (setAt_of_ne _ _ hj)
  case finishTop r hs hn hpc hph =>
    by_cases hj : j = 0
    · subst hj; exact .finished r rfl hs hpc hph rfl rfl
    · exact .same (setAt_of_ne _ _ hj)
  case finish s r hs0 hsn hs hpc hph =>
    by_cases hj : j = s
    · subst hj; exact .finished r rfl hs hpc hph (setAt_self ..) (setAt_self ..)
    · exact .same (setAt_of_ne _ _ hj)

theorem ph_moves (j : Nat) : a'.ph j = a.ph j ∨ ((a.ph j = .idle ∨ (a.ph j).live = true) ∧ a'.ph j ≠ .idle) := by
  match ph_cases h j with
  | .same h => exact .inl h
  | .created (was := h) (ph := h') .. | .bodyEnds (was := h) (ph := h') ..
  | .cancelAcked (was := .inl h) (ph := h') .. | .cancelAcked (was := .inr ⟨h, _⟩) (ph := h') .. =>
    exact .inr ⟨by simp [h, Ph.live], by simp [h']⟩
  | .topBegins (was := h) (ph := h') .. | .granted (was := h) (ph := h') .. =>
    exact .inr ⟨by simp [h, Ph.live], by rw [h']; split <;> simp⟩
  | .finished (r := r) (was := h) (ph := h') .. => exact .inr ⟨by simp [h, Ph.live], by cases r <;> simp [h', finPh]⟩

theorem ph_running {j : Nat} (hr : a'.ph j = .running) :
    a.ph j = .running ∨ (e = .grant j ∧ a.ph j = .queued ∧ a.creq j = false) ∨
      (e = .runBegin ∧ j = 0 ∧ a.ph j = .idle) := by
  match ph_cases h j with
  | .same h1 => exact .inl (h1 ▸ hr)
  | .granted ev was creq _ => exact .inr (.inl ⟨ev, was, creq⟩)
  | .topBegins ev top was _ => exact .inr (.inr ⟨ev, top, was⟩)
  | .created (ph := h1) .. | .bodyEnds (ph := h1) .. | .cancelAcked (ph := h1) .. => rw [hr] at h1; cases h1
  | .finished (r := r) (ph := h1) .. => rw [hr] at h1; cases r <;> cases h1

theorem ph_final {j : Nat} (hf : (a.ph j).isDone = true ∨ a.ph j = .cancelled) : a'.ph j = a.ph j :=
  (ph_moves h j).resolve_right fun ⟨h1, _⟩ => by
    cases hp : a.ph j <;> simp [hp, Ph.isDone, Ph.live] at h1 hf

theorem rx_cases (s : Nat) :
    a'.rx s = a.rx s ∨ a'.rx s = none ∨
    (e = .waitReturn s ∧ a.rx s = none ∧ doneSet c a s ≠ [] ∧ a'.rx s = some (doneSet c a s)) := by
  cases h
  case waitReturn s0 hsn hs hpc hrx hD =>
    by_cases hs : s = s0
    · subst hs; exact .inr (.inr ⟨rfl, hrx, hD, setAt_self ..⟩)
    · exact .inl (setAt_of_ne _ _ hs)
  case runBegin | grantSched | reactLeave | reactGo | leave =>
    exact (setAt_cases a.rx _ none s).imp And.right fun h => .inl h.2
  all_goals exact .inl rfl

theorem creq_cases (k : Nat) :
    a'.creq k = a.creq k ∨ (a'.creq k = false ∧ ((a'.ph k).isDone = true ∨ a'.ph k = .cancelled)) ∨
    (a'.creq k = true ∧ ((e = .extCancel ∧ k = 0) ∨
      ∃ s K, (e = .leave s K ∨ e = .react s true K) ∧ a.pc s = .loop ∧ a'.pc s = .exiting ∧
        k ∈ c.children s ∧ (a.ph k).live = true)) := by
  have cleared : ∀ {j : Nat} {v : Ph} {b : StA}, (v.isDone = true ∨ v = .cancelled) →
      b.creq = setAt a.creq j false → b.ph = setAt a.ph j v →
      b.creq k = a.creq k ∨ (b.creq k = false ∧ ((b.ph k).isDone = true ∨ b.ph k = .cancelled)) := by
    intro j v b hv h1 h2
    by_cases hk : k = j
    · subst hk; exact .inr ⟨by rw [h1, setAt_self], by rw [h2, setAt_self]; exact hv⟩
    · exact .inl (by rw [h1, setAt_of_ne _ _ hk])
  cases h
  case reactLeave s K D hrx hsn hs hpc hK =>
    by_cases hk : k ∈ K
    · exact .inr (.inr ⟨by simp [hk], .inr ⟨s, K, .inr rfl, hpc, setAt_self .., hK k hk⟩⟩)
    · exact .inl (by simp [hk])
  case leave s K hsn hs hpc hK =>
    by_cases hk : k ∈ K
    · exact .inr (.inr ⟨by simp [hk], .inr ⟨s, K, .inl rfl, hpc, setAt_self .., hK k hk⟩⟩)
    · exact .inl (by simp [hk])
  case cancelQueued | cancelRunning => exact (cleared (.inr rfl) rfl rfl).imp_right .inl
  case finishTop r _ _ _ _ | finish r _ _ _ _ _ => exact (cleared (finPh_final r) rfl rfl).imp_right .inl
  case extCancel =>
    exact (setAt_cases a.creq 0 true k).imp And.right fun h => .inr ⟨h.2, .inl ⟨rfl, h.1⟩⟩
  all_goals exact .inl rfl

theorem creq_drop (k : Nat) (h0 : a.creq k = true) (h1 : a'.creq k = false) :
    (a'.ph k).isDone = true ∨ a'.ph k = .cancelled := by
  rcases creq_cases h k with h2 | ⟨_, h2⟩ | ⟨h2, _⟩
  · rw [h2, h0] at h1; cases h1
  · exact h2
  · rw [h2] at h1; cases h1

theorem deliv_cases (k : Nat) :
    a'.deliv k = a.deliv k ∨
    (∃ s, e = .waitReturn s ∧ a.pc s = .loop ∧ k ∈ doneSet c a s ∧ a'.deliv k = true) := by
  cases h
  case waitReturn s hsn hs hpc hrx hD =>
    by_cases hk : k ∈ doneSet c a s
    · exact .inr ⟨s, rfl, hpc, hk, by simp [hk]⟩
    · exact .inl (by simp [hk])
  all_goals exact .inl rfl

theorem deliv_loop {k : Nat} (hd : a'.deliv k = true) :
    a.deliv k = true ∨ (k ∈ c.children (c.parent k) ∧ a.pc (c.parent k) = .loop) := by
  rcases deliv_cases h k with h1 | ⟨s, _, hpc, hk, _⟩
  · exact .inl (h1 ▸ hd)
  · have hc := (mem_doneSet.1 hk).1
    have hp := (mem_children.1 hc).2.2
    exact .inr ⟨hp ▸ hc, hp ▸ hpc⟩

theorem entries_cases (j : Nat) :
    a'.entries j = a.entries j ∨ (e = .grant j ∧ a.ph j = .queued ∧ a'.entries j = a.entries j + 1) := by
  cases h
  case grantJob j0 _ _ hph _ _ _ | grantEmpty j0 _ _ hph _ _ _ _ | grantSched j0 _ _ hph _ _ _ _ =>
    by_cases hj : j = j0
    · subst hj; exact Or.inr ⟨rfl, hph, by simp [startJobs]⟩
    · exact Or.inl (by simp [startJobs, setAt, hj])
  all_goals exact Or.inl rfl

/-- `k ≠ 0`: `runBegin` takes a top-level scheduler without jobs from `idle` to `done` at once -/
theorem frozen {k : Nat} (hk : k ≠ 0) (h1 : (a.ph k).live = false) (h2 : (a'.ph k).live = false) :
    a'.ph k = a.ph k ∧ a'.entries k = a.entries k := by
  constructor
  · match ph_cases h k with
    | .same h3 => exact h3
    | .created (ph := h3) .. => simp [h3, Ph.live] at h2
    | .topBegins (top := h3) .. => exact absurd h3 hk
    | .granted (was := h3) .. | .bodyEnds (was := h3) .. | .finished (was := h3) ..
    | .cancelAcked (was := .inl h3) .. | .cancelAcked (was := .inr ⟨h3, _⟩) .. => simp [h3, Ph.live] at h1
  · rcases entries_cases h k with h3 | ⟨_, h3, _⟩
    · exact h3
    · simp [h3, Ph.live] at h1

theorem now_cases : a'.now = a.now ∨ ∃ d, e = .tick d ∧ 0 < d ∧ a'.now = a.now + d := by
  cases h
  case tick d hd => exact .inr ⟨d, rfl, hd, rfl⟩
  all_goals exact .inl rfl

/-- what one step does to the run of scheduler `s`, as layer A sees it -/
inductive PcAStep (c : Cfg) (a : StA) (e : EvA) (a' : StA) (s : Nat) : Prop
  | same (pc : a'.pc s = a.pc s)
  | begins (ev : begins s e = true) (pc : a'.pc s = (if c.children s = [] then .over else .loop))
  | leaves (was : a.pc s = .loop) (pc : a'.pc s = .exiting)
  | ends (r : Option Res) (was : a.pc s = .exiting) (pc : a'.pc s = .over) (ev : e = .finish s r)

theorem pcA_cases (s : Nat) : PcAStep c a e a' s := by
  cases h
  case runBeginEmpty _ _ he | runBegin _ _ he =>
    by_cases hs : s = 0
    · subst hs; exact .begins rfl (by simp [startJobs, he])
    · exact .same (setAt_of_ne _ _ hs)
  case grantEmpty j _ _ _ _ _ _ he | grantSched j _ _ _ _ _ _ he =>
    by_cases hs : s = j
    · subst hs; exact .begins (by simp [begins]) (by simp [startJobs, he])
    · exact .same (setAt_of_ne _ _ hs)
  case reactLeave s0 _ _ _ _ _ hpc _ | leave s0 _ _ _ hpc _ =>
    by_cases hs : s = s0
    · subst hs; exact .leaves hpc (setAt_self ..)
    · exact .same (setAt_of_ne _ _ hs)
  case finishTop r hs hn hpc hph =>
    by_cases hs0 : s = 0
    · subst hs0; exact .ends r hpc rfl rfl
    · exact .same (setAt_of_ne _ _ hs0)
  case finish s0 r hs0 hsn hs hpc hph =>
    by_cases hss : s = s0
    · subst hss; exact .ends r hpc (setAt_self ..) rfl
    · exact .same (setAt_of_ne _ _ hss)
  all_goals exact .same rfl

theorem StepA.begun (s : Nat) (hs : a.pc s ≠ .notBegun) : a'.pc s ≠ .notBegun := by
  match pcA_cases h s with
  | .same h1 => rw [h1]; exact hs
  | .begins (pc := h1) .. => rw [h1]; split <;> simp
  | .leaves (pc := h1) .. | .ends (pc := h1) .. => simp [h1]

theorem step_pc (s : Nat) (hs : a'.pc s ≠ .notBegun) : a.pc s ≠ .notBegun ∨ begins s e = true := by
  match pcA_cases h s with
  | .same h1 => exact .inl (h1 ▸ hs)
  | .begins (ev := h1) .. => exact .inr h1
  | .leaves (was := h1) .. | .ends (was := h1) .. => exact .inl (by simp [h1])

end

end AJ.Run
