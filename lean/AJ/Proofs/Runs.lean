/-
  `acceptA`, `acceptAL`, `acceptB` are the same fold over three step functions: what holds of any such fold is proved
  once, for `IsRun step acc`, and used through the instances (`(isRunB c).induction …`).
-/
namespace AJ

structure IsRun {σ ε : Type} (step : σ → ε → Option σ) (acc : σ → List ε → Option σ) : Prop where
  nil : ∀ s, acc s [] = some s
  cons : ∀ s e es, acc s (e :: es) = (step s e).bind fun s' => acc s' es

namespace IsRun
variable {σ ε : Type} {step : σ → ε → Option σ} {acc : σ → List ε → Option σ} (R : IsRun step acc)
include R

theorem cons_some {s s' : σ} {e : ε} {es : List ε} :
    acc s (e :: es) = some s' ↔ ∃ s1, step s e = some s1 ∧ acc s1 es = some s' := by
  rw [R.cons]; cases step s e <;> simp

theorem append (s : σ) (e1 e2 : List ε) : acc s (e1 ++ e2) = (acc s e1).bind fun s1 => acc s1 e2 := by
  induction e1 generalizing s with
  | nil => simp [R.nil]
  | cons e es ih => simp only [List.cons_append, R.cons]; cases step s e <;> simp [ih]

theorem append_some {s s' : σ} {e1 e2 : List ε} :
    acc s (e1 ++ e2) = some s' ↔ ∃ s1, acc s e1 = some s1 ∧ acc s1 e2 = some s' := by
  rw [R.append]; cases acc s e1 <;> simp

theorem snoc_some {s s' : σ} {es : List ε} {e : ε} :
    acc s (es ++ [e]) = some s' ↔ ∃ s1, acc s es = some s1 ∧ step s1 e = some s' := by
  rw [R.append_some]
  refine exists_congr fun s1 => and_congr_right fun _ => ?_
  rw [R.cons_some]; simp [R.nil]

theorem induction {P : List ε → σ → Prop} {s0 s : σ} {es : List ε} (h : acc s0 es = some s) (h0 : P [] s0)
    (hstep : ∀ pre s1 e s2, acc s0 pre = some s1 → P pre s1 → step s1 e = some s2 → P (pre ++ [e]) s2) : P es s := by
  suffices ∀ pre s1, acc s0 pre = some s1 → P pre s1 → acc s1 es = some s → P (pre ++ es) s from
    this [] s0 (R.nil s0) h0 h
  clear h
  induction es with
  | nil => intro pre s1 _ hp h; rw [R.nil] at h; cases h; simpa using hp
  | cons e es ih =>
    intro pre s1 h1 hp h
    obtain ⟨s2, h2, h3⟩ := R.cons_some.1 h
    have := ih (pre ++ [e]) s2 (R.snoc_some.2 ⟨s1, h1, h2⟩) (hstep pre s1 e s2 h1 hp h2) h3
    simpa using this

theorem sim {σ' ε' : Type} {step' : σ' → ε' → Option σ'} {acc' : σ' → List ε' → Option σ'} (R' : IsRun step' acc')
    (rel : σ → σ' → Prop) (f : ε → ε') {s0 s : σ} {t0 : σ'} {es : List ε} (h : acc s0 es = some s) (h0 : rel s0 t0)
    (hstep : ∀ pre s1 e s2 t1, acc s0 (pre ++ [e]) = some s2 → (pre ++ [e]) <+: es → step s1 e = some s2 → rel s1 t1 →
      ∃ t2, step' t1 (f e) = some t2 ∧ rel s2 t2) :
    ∃ t, acc' t0 (es.map f) = some t ∧ rel s t := by
  refine R.induction (P := fun pre s1 => pre <+: es → ∃ t1, acc' t0 (pre.map f) = some t1 ∧ rel s1 t1) h
    (fun _ => ⟨t0, R'.nil t0, h0⟩) ?_ (List.prefix_refl _)
  intro pre s1 e s2 h1 ih hs hp
  obtain ⟨t1, ht1, hr1⟩ := ih ((List.prefix_append _ _).trans hp)
  obtain ⟨t2, ht2, hr2⟩ := hstep pre s1 e s2 t1 (R.snoc_some.2 ⟨s1, h1, hs⟩) hp hs hr1
  exact ⟨t2, by rw [List.map_append]; exact R'.snoc_some.2 ⟨t1, ht1, ht2⟩, hr2⟩

theorem mono {step' : σ → ε → Option σ} {acc' : σ → List ε → Option σ} (R' : IsRun step' acc')
    (hstep : ∀ s e s', step s e = some s' → step' s e = some s') {s s' : σ} {es : List ε}
    (h : acc s es = some s') : acc' s es = some s' := by
  obtain ⟨t, ht, rfl⟩ := R.sim R' (fun a b => b = a) id h rfl
    fun _ s1 e s2 t1 _ _ hs hr => ⟨s2, hr ▸ hstep s1 e s2 hs, rfl⟩
  simpa using ht

theorem invariant {P : σ → Prop} {s0 s : σ} {es : List ε} (h : acc s0 es = some s) (h0 : P s0)
    (hstep : ∀ s1 e s2, P s1 → step s1 e = some s2 → P s2) : P s :=
  R.induction (P := fun _ => P) h h0 fun _ s1 e s2 _ => hstep s1 e s2

theorem first (N : σ → Bool) {s0 s : σ} {es : List ε} (h : acc s0 es = some s) (h0 : N s0 = false) (h1 : N s = true) :
    ∃ a e b y z, es = a ++ e :: b ∧ acc s0 a = some y ∧ step y e = some z ∧ acc z b = some s ∧
      N y = false ∧ N z = true := by
  induction es generalizing s0 with
  | nil => rw [R.nil] at h; cases h; rw [h0] at h1; cases h1
  | cons e es ih =>
    obtain ⟨s1, hs, h'⟩ := R.cons_some.1 h
    cases hN : N s1 with
    | true => exact ⟨[], e, es, s0, s1, rfl, R.nil _, hs, h', h0, hN⟩
    | false =>
      obtain ⟨a, e', b, y, z, rfl, ha, hyz⟩ := ih h' hN
      exact ⟨e :: a, e', b, y, z, rfl, R.cons_some.2 ⟨s1, hs, ha⟩, hyz⟩

/-- "no time has passed since the cause": a state predicate that holds initially and wherever the clock is about to
    advance, and that only the causes `C` (judged in the state in which they occur) can falsify, fails only in states
    reached with no `tick` since the last cause -/
theorem holds_or_caused (tick : ε → Bool) (C : σ → ε → Bool) (P : σ → Prop) {s0 : σ}
    (hinit : P s0)
    (htick : ∀ pre s e s', acc s0 pre = some s → step s e = some s' → tick e = true → P s)
    (hstep : ∀ pre s e s', acc s0 pre = some s → step s e = some s' → C s e = false → P s → P s')
    {evs : List ε} {s : σ} (h : acc s0 evs = some s) :
    P s ∨ ∃ a e0 b sa, evs = a ++ e0 :: b ∧ acc s0 a = some sa ∧ C sa e0 = true ∧ ∀ x ∈ b, tick x = false := by
  refine R.induction (P := fun evs s => P s ∨ ∃ a e0 b sa, evs = a ++ e0 :: b ∧ acc s0 a = some sa ∧
    C sa e0 = true ∧ ∀ x ∈ b, tick x = false) h (Or.inl hinit) ?_
  intro pre s1 e s2 hpre ih hs
  cases hC : C s1 e with
  | true => exact Or.inr ⟨pre, e, [], s1, rfl, hpre, hC, fun _ hx => by cases hx⟩
  | false =>
    have keep : P s1 → P s2 := hstep pre s1 e s2 hpre hs hC
    cases ht : tick e with
    | true => exact Or.inl (keep (htick pre s1 e s2 hpre hs ht))
    | false =>
      rcases ih with hP | ⟨a, e0, b, sa, rfl, ha, h0, hb⟩
      · exact Or.inl (keep hP)
      · refine Or.inr ⟨a, e0, b ++ [e], sa, by simp, ha, h0, fun x hx => ?_⟩
        rcases List.mem_append.1 hx with hx | hx
        · exact hb x hx
        · rw [List.mem_singleton.1 hx]; exact ht

end IsRun
end AJ
