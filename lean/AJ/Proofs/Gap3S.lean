/-
  Non-vacuity of the C15 / C20 theorems of `AJ.Proofs.Gap3` on `list()` and `_set_sched_ids` (Listing.lean, C15.lean): a
  two-level tree, its listing and its numbering.
-/
import AJ.Proofs.Tree
namespace AJ.Proofs.Gap3
open AJ.Proofs.C16 (TreeAt)

/-- scheduler `0` = {`1`, `2`}, nested scheduler `1` = {`3`, `4`}; `1` requires `2`, `3` requires `4` -/
def exT : T :=
  { n := 5, isSched := fun j => j = 0 || j = 1,
    mem := fun j => if j = 0 then [1, 2] else if j = 1 then [3, 4] else [],
    req := fun j => if j = 1 then [2] else if j = 3 then [4] else [],
    forever := fun _ => false, critical := fun _ => false }

theorem exT_tree : TreeAt exT 0 :=
  .of_wf (by decide) (fun k hk => by
    have : 5 ≤ k := hk
    simp only [exT]
    rw [if_neg (by omega), if_neg (by omega)]) 0

/-- the numbering of `exT` from 1: requirements first, inside each scheduler -/
example : exT.wf = true ∧ (assignIds exT 3 0 1).toOption = some (5, [(2, 1), (1, 2), (4, 3), (3, 4)]) ∧
    (listing exT 3 0).toOption = some [2, 1, 4, 3] := by
  decide

end AJ.Proofs.Gap3
