/-
  Scope of a scheduler's window and timeout (C07, C10): the window of scheduler `s` is read only when a job *of s*
  asks for a slot (and by the urgency guard of the clock), its timeout only to arm its own deadline.  Also: layer A does not read `forever` (C09).
-/
import AJ.Proofs.StepB
namespace AJ.Proofs.ScopeB
open AJ.Run AJ.Full

def setWindow (c : Cfg) (s w : Nat) : Cfg := { c with window := fun k => if k = s then w else c.window k }

def setTimeout (c : Cfg) (s : Nat) (T : Option Nat) : Cfg := { c with timeout := fun k => if k = s then T else c.timeout k }

theorem sw_n (c : Cfg) (s w : Nat) : (setWindow c s w).n = c.n := rfl
theorem sw_parent (c : Cfg) (s w : Nat) : (setWindow c s w).parent = c.parent := rfl
theorem sw_isSched (c : Cfg) (s w : Nat) : (setWindow c s w).isSched = c.isSched := rfl
theorem sw_window_ne (c : Cfg) (s w p : Nat) (h : p ≠ s) : (setWindow c s w).window p = c.window p := by
  simp [setWindow, h]
theorem sw_window_eq (c : Cfg) (s w : Nat) : (setWindow c s w).window s = w := by
  simp [setWindow]
theorem doneSet_sw (c : Cfg) (s w : Nat) (st : StA) (k : Nat) : doneSet (setWindow c s w) st k = doneSet c st k := rfl
theorem sw_children (c : Cfg) (s w k : Nat) : (setWindow c s w).children k = c.children k := rfl
theorem beginRun_sw (c : Cfg) (s w : Nat) (st : StA) (k : Nat) : beginRun (setWindow c s w) st k = beginRun c st k := rfl
theorem release_sw (c : Cfg) (s w : Nat) (st : StA) (k : Nat) : release (setWindow c s w) st k = release c st k := rfl
theorem entrySet_sw (c : Cfg) (s w k : Nat) : entrySet (setWindow c s w) k = entrySet c k := rfl
theorem startCands_sw (c : Cfg) (s w : Nat) (st : StA) (k : Nat) (D : List Nat) :
    startCands (setWindow c s w) st k D = startCands c st k D := rfl
theorem beginB_sw (c : Cfg) (s w : Nat) (st : StB) (k : Nat) (a' : StA) :
    beginB (setWindow c s w) st k a' = beginB c st k a' := rfl
theorem slotFree_sw_ne (c : Cfg) (s w : Nat) (st : StA) (p : Nat) (h : p ≠ s) :
    slotFree (setWindow c s w) st p = slotFree c st p := by
  simp only [slotFree, sw_window_ne c s w p h]

theorem slotFree_sw_eq (c : Cfg) (s w : Nat) (st : StA) :
    slotFree (setWindow c s w) st s = (w == 0 || decide (st.qcount s < w)) := by
  simp only [slotFree, sw_window_eq]

theorem grant_congr (c : Cfg) (W : Nat → Nat) (st : StA) (j : Nat)
    (h : slotFree { c with window := W } st (c.parent j) = slotFree c st (c.parent j)) :
    stepA { c with window := W } st (.grant j) = stepA c st (.grant j) := by
  simp only [stepA, h]
  rfl

theorem grant_sw (c : Cfg) (s w : Nat) (st : StA) (j : Nat)
    (h : slotFree (setWindow c s w) st (c.parent j) = slotFree c st (c.parent j)) :
    stepA (setWindow c s w) st (.grant j) = stepA c st (.grant j) :=
  grant_congr c _ st j h

/-- C07 / C10 (layer A): apart from the passing of time, the only step that reads the window of `s` is a job of `s`
    itself obtaining a slot: every other step is the same whatever that window is -/
theorem window_scoped_A (c : Cfg) (s w : Nat) (st : StA) (e : EvA)
    (hg : ∀ j, e = .grant j → c.parent j ≠ s) (ht : ∀ d, e ≠ .tick d) :
    stepA (setWindow c s w) st e = stepA c st e := by
  cases e
  case grant j => exact grant_sw c s w st j (slotFree_sw_ne c s w st _ (hg j rfl))
  case tick d => exact absurd rfl (ht d)
  all_goals rfl

/-- C07 / C10 (layer B): the same for the full model -/
theorem window_scoped_B (c : Cfg) (s w : Nat) (st : StB) (e : EvB)
    (hg : ∀ j, e = .grant j → c.parent j ≠ s) (ht : ∀ d, e ≠ .tick d) :
    stepB (setWindow c s w) st e = stepB c st e := by
  cases e
  case grant j =>
    have hA := grant_sw c s w st.a j (slotFree_sw_ne c s w st.a _ (hg j rfl))
    simp only [stepB, hA]
    rfl
  case tick d => exact absurd rfl (ht d)
  all_goals rfl

/-- C07: widening the window of `s` never disables a slot request: a job that obtains a slot under window `w` of its
    scheduler obtains it under any larger window, and under no window at all (0) -/
theorem window_monotone (c : Cfg) (s w w' : Nat) (st st' : StA) (j : Nat)
    (h : stepA (setWindow c s w) st (.grant j) = some st') (hw : w' = 0 ∨ (w ≠ 0 ∧ w ≤ w')) :
    stepA (setWindow c s w') st (.grant j) = some st' := by
  -- a slot is free under `w`, hence under `w'`; the request reads the window through that answer only
  have hfree : slotFree (setWindow c s w) st (c.parent j) = true := (StepA.of_stepA h).grant_inv.2.2.2.2
  have hfree' : slotFree (setWindow c s w') st (c.parent j) = true := by
    by_cases hp : c.parent j = s
    · rw [hp, slotFree_sw_eq] at hfree ⊢
      rcases hw with rfl | ⟨h0, hle⟩
      · rfl
      · have : st.qcount s < w := by simpa [h0] using hfree
        simp [Nat.lt_of_lt_of_le this hle]
    · rw [slotFree_sw_ne _ _ _ _ _ hp] at hfree ⊢; exact hfree
  rw [← h]
  exact grant_congr (setWindow c s w) (setWindow c s w').window st j (hfree'.trans hfree.symm)

theorem stepA_st (c : Cfg) (s : Nat) (T : Option Nat) (a : StA) (e : EvA) : stepA (setTimeout c s T) a e = stepA c a e := by
  cases e <;> rfl

theorem stepA_st_iff {c : Cfg} {s : Nat} {T : Option Nat} {a a' : StA} {e : EvA} :
    StepA (setTimeout c s T) a e a' ↔ StepA c a e a' := by
  rw [← stepAL_iff, ← stepAL_iff]; unfold stepAL; simp only [stepA_st]

theorem st_timeout_ne (c : Cfg) (s : Nat) (T : Option Nat) (k : Nat) (h : k ≠ s) : (setTimeout c s T).timeout k = c.timeout k := by
  simp [setTimeout, h]

theorem st_children (c : Cfg) (s : Nat) (T : Option Nat) (k : Nat) : (setTimeout c s T).children k = c.children k := rfl
theorem st_isSched (c : Cfg) (s : Nat) (T : Option Nat) : (setTimeout c s T).isSched = c.isSched := rfl

theorem beginB_st_ne (c : Cfg) (s : Nat) (T : Option Nat) (st : StB) (k : Nat) (a' : StA) (h : k ≠ s) :
    beginB (setTimeout c s T) st k a' = beginB c st k a' := by
  simp only [beginB, st_children, st_timeout_ne c s T k h]

/-- C10 (layer B): the timeout of `s` is read only when the run of `s` begins (to arm its own deadline): every step
    that does not begin the run of `s` is the same whatever that timeout is.  (`runBegin` begins the run of the
    top-level scheduler 0, `grant s` that of a nested scheduler `s`.) -/
theorem timeout_scoped_B (c : Cfg) (s : Nat) (T : Option Nat) (st : StB) (e : EvB)
    (hb : e ≠ .grant s) (hr : e = .runBegin → s ≠ 0) :
    stepB (setTimeout c s T) st e = stepB c st e := by
  cases e
  case runBegin =>
    simp only [stepB, stepA_st, beginB_st_ne c s T st 0 _ (fun h0 => hr rfl h0.symm)]
  case grant j =>
    have hj : j ≠ s := fun hjs => hb (by rw [hjs])
    simp only [stepB, stepA_st, st_isSched, beginB_st_ne c s T st j _ hj]
  all_goals rfl

/-! The excluded events do read the field: the hypotheses of the theorems above cannot be dropped. -/

def cfgEx : Cfg :=
  { n := 3, parent := fun _ => 0, isSched := fun k => k == 0, req := fun _ => [], critical := fun _ => false,
    forever := fun _ => false, window := fun _ => 0, timeout := fun _ => none, sdTimeout := fun _ => none, topPure := true }

/-- job 1 running (one slot of scheduler 0 taken), job 2 queued -/
def stEx : StA :=
  { StA.init with ph := fun k => if k = 2 then .queued else .running, pc := setAt StA.init.pc 0 .loop,
                  qcount := fun _ => 1 }

/-- `grant` of a job of `s` reads the window of `s`: refused under window 1, accepted without window -/
example : (stepA (setWindow cfgEx 0 1) stEx (.grant 2)).isSome = false ∧ (stepA cfgEx stEx (.grant 2)).isSome = true := by
  decide

/-- `tick` reads the window of `s` (urgency guard): time may pass under window 1, not without window -/
example : (stepA (setWindow cfgEx 0 1) stEx (.tick 1)).isSome = true ∧ (stepA cfgEx stEx (.tick 1)).isSome = false := by
  decide

/-- `window_monotone` needs `w ≠ 0`: a request accepted without window is refused under window 1 -/
example : (stepA (setWindow cfgEx 0 0) stEx (.grant 2)).isSome = true ∧
    (stepA (setWindow cfgEx 0 1) stEx (.grant 2)).isSome = false := by
  decide

/-- `runBegin` reads the timeout of scheduler 0: the armed deadline differs -/
example : (stepB (setTimeout cfgEx 0 (some 5)) StB.init .runBegin).map (·.deadline 0) = some (some 5) ∧
    (stepB cfgEx StB.init .runBegin).map (·.deadline 0) = some none := by
  decide

end AJ.Proofs.ScopeB

namespace AJ.Proofs.Gap2
open AJ.Run AJ.Proofs.ScopeB

/-- C09 "same rules for forever jobs": layer A (start rules, windows, waits, cancellation acknowledgements) does not
    look at the `forever` flag at all. -/
theorem forever_blind_A (c : Cfg) (f : Nat → Bool) (st : StA) (e : EvA) :
    stepA { c with forever := f } st e = stepA c st e := by
  cases e <;> rfl

/-- C07/C10: the window of scheduler `s` matters to the passing of time only through the queued jobs of `s`: when no
    job of `s` is waiting for a slot, a `tick` is accepted (and leads to the same state) whatever that window is. -/
theorem window_scoped_tick (c : Cfg) (s w : Nat) (st : StA) (d : Nat)
    (hq : ∀ j, c.parent j = s → st.ph j ≠ .queued) : stepA (setWindow c s w) st (.tick d) = stepA c st (.tick d) := by
  -- the guard of `tick` looks at the window of `s` only for a queued job of `s`
  have : ∀ j, (0 < j ∧ st.ph j = .queued ∧ st.creq j = false ∧ slotFree (setWindow c s w) st (c.parent j) = true) ↔
      (0 < j ∧ st.ph j = .queued ∧ st.creq j = false ∧ slotFree c st (c.parent j) = true) := fun j =>
    and_congr_right fun _ => and_congr_right fun hj => by rw [slotFree_sw_ne c s w st _ fun hp => hq j hp hj]
  simp only [stepA, sw_n, sw_parent, sw_isSched, doneSet_sw, this]

end AJ.Proofs.Gap2
