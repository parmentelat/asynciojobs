/-
  C15 — cycle detection is exact; topological order is a valid linear extension, and `_set_sched_ids` numbers along it.
  The theorems are read off `topo_*` (C15Aux.lean) and the characterisation of `listing` / `assignIds` (Listing.lean).
-/
import AJ.Proofs.Listing
namespace AJ.Proofs.C15

-- several statements carry hypotheses (`hnd`, `hcl`, `hwf`) that their proofs do not use
set_option linter.unusedVariables false in
/-- every job exactly once -/
theorem topo_perm (t : T) (s : Nat) (l : List Nat) (hnd : (t.mem s).Nodup)
    (h : topo t s = .ok l) : l.Perm (t.mem s) :=
  topo_perm_ext h

set_option linter.unusedVariables false in
/-- the fuel is never the reason the loop stops -/
theorem topo_never_fuel (t : T) (s : Nat) (ext : List Nat) (hnd : (t.mem s).Nodup) :
    topo t s ext ≠ .error .fuel := by
  intro h
  rcases topo_cases t s ext with ⟨l, h'⟩ | ⟨h', _⟩ <;> rw [h] at h' <;> cases h'

/-- exactness: an order is produced iff the (closed) requirement graph is acyclic -/
theorem topo_iff (t : T) (s : Nat) (hnd : (t.mem s).Nodup) (hcl : Closed t s) :
    (∃ l, topo t s = .ok l) ↔ Acyclic t s := by
  constructor
  · rintro ⟨l, h⟩; exact acyclic_of_topo_ok t s l h
  · exact topo_ok_of_acyclic t s hnd hcl

set_option linter.unusedVariables false in
/-- on a cyclic graph it raises (the `Exception` of purescheduler.py:362), it does not loop or drop jobs -/
theorem topo_raises (t : T) (s : Nat) (hnd : (t.mem s).Nodup) (hcl : Closed t s)
    (hcyc : ¬ Acyclic t s) : topo t s = .error .cycle := by
  rcases topo_cases t s [] with ⟨l, h⟩ | ⟨h, _⟩
  · exact absurd (acyclic_of_topo_ok t s l h) hcyc
  · exact h

theorem check_pure_iff (t : T) (s : Nat) (hnd : (t.mem s).Nodup) (hcl : Closed t s) :
    checkCyclesPure t s = true ↔ Acyclic t s := by
  rw [← topo_iff t s hnd hcl]
  unfold checkCyclesPure
  cases topo t s <;> simp

/-- `Scheduler.check_cycles`: true iff the scheduler and every nested scheduler at any depth is acyclic
    (`hwf`: every scheduler of the subtree is closed, and what `T.wf` gives) -/
theorem check_nested_iff (t : T) (fuel s : Nat)
    (hwf : ∀ s', (s' = s ∨ Desc t s s') → t.isSched s' = true →
        (t.mem s').Nodup ∧ Closed t s' ∧ ∀ k ∈ t.mem s', s' < k ∧ k < t.n)
    (hs : s < t.n) (hfuel : t.n - s ≤ fuel) (hsched : t.isSched s = true) :
    checkCyclesNested t fuel s = true ↔
      (Acyclic t s ∧ ∀ s', Desc t s s' → t.isSched s' = true → Acyclic t s') := by
  suffices h : checkCyclesNested t fuel s = true ↔ ∀ s', In t s s' → t.isSched s' = true → Acyclic t s' from
    h.trans ⟨fun h => ⟨h s (.root ..) hsched, fun s' hd => h s' (Or.inr hd)⟩,
      fun h s' hs' => hs'.elim (fun e _ => e ▸ h.1) (h.2 s')⟩
  refine fuel_ind t (fun fuel s => (∀ s', In t s s' → t.isSched s' = true → (t.mem s').Nodup ∧ Closed t s') →
    (checkCyclesNested t fuel s = true ↔ ∀ s', In t s s' → t.isSched s' = true → Acyclic t s'))
    (fun fuel s hsched ih hwf => ?_) fuel s hsched hs hfuel (fun s' h hs' => (hwf s' h hs').2.2)
    (fun s' h hs' => ⟨(hwf s' h hs').1, (hwf s' h hs').2.1⟩)
  obtain ⟨hnd, hcl⟩ := hwf s (.root ..) hsched
  have key := fun j hj hjs => ih j hj hjs fun s' hs' => hwf s' (.of_child hsched hj hs')
  unfold checkCyclesNested
  split
  · next e h =>
    refine ⟨nofun, fun hall => ?_⟩
    obtain ⟨l, hl⟩ := topo_ok_of_acyclic t s hnd hcl (hall s (.root ..) hsched)
    rw [hl] at h; cases h
  · next l h =>
    simp only [List.all_eq_true, Bool.or_eq_true, Bool.not_eq_eq_eq_not, Bool.not_true]
    constructor
    · rintro hall s' (rfl | hd) hs'
      · exact acyclic_of_topo_ok t s' l h
      · obtain ⟨k, hk, hin⟩ := hd.first
        have hks := hin.sched hs'
        exact (key k hk hks).1 ((hall k ((mem_topo h).2 hk)).resolve_left (by simp [hks])) s' hin hs'
    · intro hall j hj
      cases hjs : t.isSched j with
      | false => exact Or.inl rfl
      | true =>
        have hjm := (mem_topo h).1 hj
        exact Or.inr ((key j hjm hjs).2 fun s' hin => hall s' (.of_child hsched hjm hin))

/-- ids given by `_set_sched_ids` are consecutive from `start`, in the order of `listing` -/
theorem ids_consecutive (t : T) (fuel s start nxt : Nat) (l : List (Nat × Nat))
    (h : assignIds t fuel s start = .ok (nxt, l)) :
    l.map (·.2) = List.range' start l.length ∧ nxt = start + l.length ∧
    listing t fuel s = .ok (l.map (·.1)) := by
  rw [assignIds_eq] at h
  cases hl : listing t fuel s with
  | error e => rw [hl] at h; cases h
  | ok r =>
    rw [hl] at h
    cases h
    simp [List.map_fst_zip, List.map_snd_zip]

set_option linter.unusedVariables false in
/-- within one scheduler a requirement is listed (hence numbered) before its dependant:
    `listing` of `s` restricted to the direct members of `s` is `topo t s` -/
theorem listing_members (t : T) (fuel s : Nat) (l lt : List Nat)
    (hnd : (t.mem s).Nodup)
    (hwf : ∀ s', (s' = s ∨ Desc t s s') → t.isSched s' = true →
        (t.mem s').Nodup ∧ ∀ k ∈ t.mem s', s' < k ∧ k < t.n)
    (hdisj : ∀ k ∈ t.mem s, ∀ d, Desc t k d → d ∉ t.mem s)
    (h : listing t (fuel + 1) s = .ok l) (ht : topo t s = .ok lt) :
    l.filter (· ∈ t.mem s) = lt := by
  obtain ⟨lt', ht', rfl, hsub⟩ := (listing_ok_iff t fuel s l).1 h
  cases ht.symm.trans ht'
  -- filtering leaves `[k]` of the block of `k`: what follows `k` is below `k`, hence no member of `s`
  rw [List.filter_flatMap, List.flatMap_def, List.map_congr_left (g := fun k => [k]), ← List.flatMap_def,
    List.flatMap_singleton']
  intro k hk
  have hkm := (mem_topo ht).1 hk
  rw [List.filter_cons_of_pos (by simpa using hkm), List.filter_eq_nil_iff.2]
  intro d hd
  cases hks : t.isSched k with
  | false => simp [subOf_atomic hks] at hd
  | true => simpa using hdisj k hkm d (listing_desc t fuel k _ hks (hsub k hk hks) d hd)

end AJ.Proofs.C15

namespace AJ.Proofs.Gap3
open AJ.Proofs.C15

theorem ids_sublist_lt (l : List (Nat × Nat)) (x y ix iy : Nat) (hnd : (l.map (·.1)).Nodup)
    (hpw : (l.map (·.2)).Pairwise (· < ·)) (hsl : [y, x].Sublist (l.map (·.1))) (hx : (x, ix) ∈ l)
    (hy : (y, iy) ∈ l) : iy < ix := by
  obtain ⟨l', hl', e⟩ := List.sublist_map_iff.1 hsl
  match l', e with
  | [p, q], e =>
    simp only [List.map_cons, List.map_nil, List.cons.injEq, and_true] at e
    -- the entries of `y` and `x` are `p` and `q`, a key having one entry only
    have hp : p = (y, iy) := map_inj_of_nodup _ l hnd p (hl'.subset (by simp)) _ hy e.1.symm
    have hq : q = (x, ix) := map_inj_of_nodup _ l hnd q (hl'.subset (by simp)) _ hx e.2.symm
    subst hp hq
    exact List.pairwise_iff_forall_sublist.1 (List.pairwise_map.1 hpw) hl'

/-- C15/C20 (`_set_sched_ids`: "a job is numbered after the jobs it requires"): in a tree, for `x` requiring `y`, both
    jobs of one scheduler `p` of the subtree of `s` (`p = s` or nested at any depth). -/
theorem ids_respect_req (t : T) (fuel s start nxt : Nat) (l : List (Nat × Nat))
    (h : assignIds t fuel s start = .ok (nxt, l)) (hs : t.isSched s = true) (htree : AJ.Proofs.C16.TreeAt t s) :
    ∀ x y ix iy, (x, ix) ∈ l → (y, iy) ∈ l → y ∈ t.req x →
      (∃ p, (p = s ∨ Desc t s p) ∧ x ∈ t.mem p ∧ y ∈ t.mem p) → iy < ix := by
  intro x y ix iy hx hy hreq ⟨p, hp, hxp, hyp⟩
  obtain ⟨h1, h2, h3⟩ := ids_consecutive t fuel s start nxt l h
  have hnd := (listing_subtree t fuel s _ hs htree h3).1
  have hord := listing_order t fuel s _ hs htree h3 p x y hp hxp hyp hreq
  have hpw : (l.map (·.2)).Pairwise (· < ·) := by
    rw [h1]; exact List.pairwise_lt_range'
  exact ids_sublist_lt l x y ix iy hnd hpw hord hx hy

/-- C15/C20 (`_set_sched_ids`): every job of the subtree receives exactly one number -/
theorem ids_cover (t : T) (fuel s start nxt : Nat) (l : List (Nat × Nat))
    (h : assignIds t fuel s start = .ok (nxt, l)) (hs : t.isSched s = true) (htree : AJ.Proofs.C16.TreeAt t s) :
    (l.map (·.1)).Nodup ∧ ∀ x, x ∈ l.map (·.1) ↔ Desc t s x := by
  obtain ⟨_, _, h3⟩ := ids_consecutive t fuel s start nxt l h
  exact listing_subtree t fuel s _ hs htree h3

end AJ.Proofs.Gap3
