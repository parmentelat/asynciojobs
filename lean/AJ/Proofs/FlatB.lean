/-
  C10 (d), the link between histories and the start-time equations of `FlatEq`.  `timingOf c evs` reads off a history
  the instants at which each job (for a scheduler: its run) began and ended: the clock of the first state in which
  `beganP j`, `endedP j` holds (`firstNow`).  Each equation of `Timing.Sat` is an instance of `firstNow_eq_max`: a
  condition that implies some stable conditions in every state, and follows from them wherever the clock may advance,
  first holds at the instant the last of them does.
-/
import AJ.Proofs.FlatEq
import AJ.Proofs.LatC
namespace AJ.Proofs.FlatB
open AJ.Run AJ.Flat AJ.Full AJ.Proofs.CoreA AJ.Proofs.CoreB AJ.Proofs.ProgB AJ.Proofs.ExitB AJ.Proofs.FlatEq

def Plain (c : Cfg) : Prop := ∀ j, j < c.n → c.window j = 0 ∧ c.timeout j = none ∧ c.forever j = false

/-- what holds in every state of a history of a plain configuration in which nothing fails (`clean_reach`) -/
structure Clean (c : Cfg) (st : StB) : Prop where
  noCreq : ∀ k, st.a.creq k = false
  noExc : ∀ k ex, st.a.ph k ≠ .done (.exc ex)
  noCan : ∀ k, st.a.ph k ≠ .cancelled
  okExit : ∀ s x, (st.pcB s).exitOf = some x → x = .success
  doneOver : ∀ s, c.isSched s = true → (st.a.ph s).isDone = true → st.pcB s = .over
  overDone : ∀ s, st.pcB s = .over → ∀ k ∈ c.children s, (st.a.ph k).isDone = true

theorem clean_init (c : Cfg) : Clean c StB.init := by
  constructor <;> intros <;> simp_all [StB.init, StA.init, PcB.exitOf, Ph.isDone]

theorem clean_leave (c : Cfg) (hplain : Plain c) (st st' : StB) (e : EvB)
    (hA : InvA c st.a) (hB : InvB c st) (hC : Clean c st) (hnf : ∀ s', e ≠ .orchFail s') (h : stepB c st e = some st')
    (s : Nat) (hl : st.pcB s = .loop) (hleft : st'.pcB s ≠ .loop) :
    st'.pcB s = .tidy .success ∧ ∀ k ∈ c.children s, (st.a.ph k).isDone = true := by
  obtain ⟨x, hx, hr, _⟩ := loop_exit hB (.of_stepB h) hl hleft
  have hm := exitMeans_at_exit hA hB hl hr
  cases x with
  | success => exact ⟨hx, fun k hk => (hm.1 k hk (hplain k (Run.mem_children.1 hk).1).2.2).1⟩
  | critical =>
    obtain ⟨d, _, _, ex, hex⟩ := hm
    exact absurd hex (hC.noExc d ex)
  | timeout =>
    obtain ⟨T, hT, _⟩ := hm
    rw [(hplain s (hB.pcRange s (by simp [hl])).1).2.1] at hT
    cases hT
  | cancelled =>
    have he : e = .cancelArrive s := hr
    subst he
    have := (StepB.of_stepB h).cancelArrive_inv.2.2.2.1
    rw [hC.noCreq s] at this; cases this
  | crashed => exact absurd hr.1 (hnf s)

theorem clean_step (c : Cfg) (hwf : c.wf = true) (hplain : Plain c) (st st' : StB) (e : EvB)
    (hA : InvA c st.a) (hB : InvB c st) (hE : ExitInv c st) (hC : Clean c st)
    (hok : ∀ j, e ≠ .bodyEnd j false) (hnf : ∀ s, e ≠ .orchFail s) (hnx : e ≠ .extCancel)
    (h : stepB c st e = some st') : Clean c st' := by
  have hB' := invB_step c hwf st st' e hA hB h
  have hS := StepB.of_stepB h
  have hleave := clean_leave c hplain st st' e hA hB hC hnf h
  have hcreq : ∀ k, st'.a.creq k = false := by
    intro k
    rcases hS.creq_cases k with h1 | h1 | ⟨rfl, _⟩ | ⟨s, x, hl, hex, hk⟩
    · rw [h1]; exact hC.noCreq k
    · exact h1
    · exact absurd rfl hnx
    · -- a run leaves its main loop only when all its jobs are done: it finds nothing to cancel
      obtain ⟨hkc, hlive⟩ := mem_liveChildren.1 hk
      have := (hleave s hl (by rw [hex]; simp)).2 k hkc
      cases hph : st.a.ph k <;> simp [hph, Ph.live, Ph.isDone] at hlive this
  have hexit : ∀ s x, (st'.pcB s).exitOf = some x → x = .success := by
    intro s x hx
    match pc_cases hS s with
    | .same (pc := q1) .. => rw [q1] at hx; exact hC.okExit s x hx
    | .begins (pc := q1) .. => rw [q1] at hx; split at hx <;> simp [PcB.exitOf] at hx
    | .leaves (loop := q0) (pc := q1) .. =>
      have := (hleave s q0 (by rw [q1]; simp)).1
      rw [this] at hx; simp only [PcB.exitOf, Option.some.injEq] at hx; exact hx.symm
    | .moves (move := hm) .. =>
      obtain ⟨y, y', q0, q1, q2⟩ := hm.exitOf
      rw [q1] at hx; cases hx
      rcases q2 with rfl | rfl
      · exact hC.okExit s _ q0
      · exfalso
        have hc := hB'.cancelledArr s q1
        rcases hB'.carrivedCreq2 s hc with h1 | h1
        · rw [hcreq s] at h1; cases h1
        · rw [h1] at q1; simp [PcB.exitOf] at q1
    | .ends (pc := q1) .. => rw [q1] at hx; simp [PcB.exitOf] at hx
  have hph : ∀ k, (∀ ex, st'.a.ph k ≠ .done (.exc ex)) ∧ st'.a.ph k ≠ .cancelled := by
    intro k
    rcases hS.proj with heq | ⟨ea, hp, ha⟩
    · rw [heq]; exact ⟨hC.noExc k, hC.noCan k⟩
    match ph_cases ha k with
    | .same h1 => rw [h1]; exact ⟨hC.noExc k, hC.noCan k⟩
    | .created (ph := h1) .. => rw [h1]; exact ⟨nofun, nofun⟩
    | .topBegins (ph := h1) .. | .granted (ph := h1) .. => rw [h1]; split <;> exact ⟨nofun, nofun⟩
    | .bodyEnds (ok := ok) (ev := hev) (ph := h1) .. =>
      subst hev; cases hp
      rw [h1]
      cases ok
      · exact absurd rfl (hok k)
      · exact ⟨nofun, nofun⟩
    | .cancelAcked (creq := hc) .. => rw [hC.noCreq k] at hc; cases hc
    | .finished (ev := hev) (ph := h1) .. =>
      -- the run of `k` ends: it had left its loop for `success`, so it returns `True`
      subst hev
      obtain ⟨x, pick, hx, hv⟩ := hp.finish_inv
      obtain rfl := hC.okExit k x hx
      cases hv
      rw [h1]; exact ⟨nofun, nofun⟩
  refine ⟨hcreq, fun k => (hph k).1, fun k => (hph k).2, hexit, ?_, ?_⟩
  · intro s hs hd
    -- the run of `s` was over already, or the event that ends the task of `s` ends its run
    cases hd0 : (st.a.ph s).isDone with
    | true => exact (diag_stable c st st' e s hA hB h (hC.doneOver s hs hd0)).1
    | false =>
      rcases hS.proj with heq | ⟨ea, _, ha⟩
      · rw [heq, hd0] at hd; cases hd
      · have hdd := HistA.step_isDone ha s
        simp only [isDone, hd, hd0, Bool.false_or] at hdd
        exact (hB'.pcOver s).2 (HistA.finishes_pc ha s hs hdd.symm)
  · intro s hov k hk
    have hdone : (st.a.ph k).isDone = true := by
      match pc_cases hS s with
      | .same (pc := q1) .. => exact hC.overDone s (q1 ▸ hov) k hk
      | .begins (pc := q1) .. =>
        rw [q1] at hov
        split at hov
        · rename_i he
          rw [List.isEmpty_iff] at he; rw [he] at hk; cases hk
        · cases hov
      | .leaves (pc := q1) .. => rw [q1] at hov; cases hov
      | .moves (move := hm) .. => exact absurd hov hm.not_over
      | .ends (x := y) (exit := q0) .. =>
        obtain rfl := hC.okExit s y q0
        exact ((hE.successMeans s q0).1 k hk (hplain k (Run.mem_children.1 hk).1).2.2).1
    rw [hS.ph_final (Or.inl hdone)]; exact hdone

theorem clean_reach (c : Cfg) (hwf : c.wf = true) (hplain : Plain c) (evs : List EvB) (st : StB)
    (hok : ∀ j ok, EvB.bodyEnd j ok ∈ evs → ok = true) (hnf : ∀ s, EvB.orchFail s ∉ evs)
    (hnx : EvB.extCancel ∉ evs)
    (h : acceptB c StB.init evs = some st) : Clean c st := by
  refine reach_induction hwf (P := fun evs st => (∀ j ok, EvB.bodyEnd j ok ∈ evs → ok = true) →
    (∀ s, EvB.orchFail s ∉ evs) → EvB.extCancel ∉ evs → Clean c st) h (fun _ _ _ => clean_init c) ?_ hok hnf hnx
  intro pre st1 e st2 hpre hA hB ih hs hok hnf hnx
  have hC := ih (fun j ok hm => hok j ok (by simp [hm])) (fun s hm => hnf s (by simp [hm])) (fun hm => hnx (by simp [hm]))
  exact clean_step c hwf hplain st1 st2 e hA hB (exitInv_reach c hwf pre st1 hpre) hC
    (fun j he => by have := hok j false (by simp [he]); cases this) (fun s he => hnf s (by simp [he]))
    (fun he => hnx (by simp [he])) hs


theorem firstNow_nil (c : Cfg) (P : StB → Bool) (st : StB) :
    firstNow c P st [] = if P st then some st.a.now else none := by
  simp only [firstNow]

theorem firstNow_pos {c : Cfg} {P : StB → Bool} {st : StB} {evs : List EvB} (h : P st = true) :
    firstNow c P st evs = some st.a.now := by
  cases evs <;> simp [firstNow, h]

theorem firstNow_neg {c : Cfg} {P : StB → Bool} {st st' : StB} {e : EvB} {es : List EvB} (h : P st = false)
    (hs : stepB c st e = some st') : firstNow c P st (e :: es) = firstNow c P st' es := by
  simp [firstNow, h, hs]

/-- `x` is a state the run of `evs` from `st0` goes through, `rest` being what remains of the history there -/
def Visits (c : Cfg) (st0 : StB) (evs : List EvB) (x : StB) (rest : List EvB) : Prop :=
  ∃ pre, evs = pre ++ rest ∧ acceptB c st0 pre = some x

theorem visits_cons {c : Cfg} {st st' x : StB} {e : EvB} {es rest : List EvB}
    (hs : stepB c st e = some st') (h : Visits c st' es x rest) : Visits c st (e :: es) x rest := by
  obtain ⟨pre, rfl, h2⟩ := h
  exact ⟨e :: pre, rfl, (isRunB c).cons_some.2 ⟨st', hs, h2⟩⟩

theorem visits_end {c : Cfg} {st fin : StB} {evs : List EvB} (h : acceptB c st evs = some fin) :
    Visits c st evs fin [] :=
  ⟨evs, (List.append_nil _).symm, h⟩

/-- along the part of the history that leads to a visited state `x`, `firstNow` stops in a state `y` in which `P` holds,
    or goes on from `x` -/
theorem firstNow_visits {c : Cfg} {P : StB → Bool} {x : StB} {rest : List EvB} :
    ∀ {evs : List EvB} {st : StB}, Visits c st evs x rest →
      firstNow c P st evs = firstNow c P x rest ∨
      ∃ y mid, Visits c st evs y mid ∧ Visits c y mid x rest ∧ P y = true ∧ firstNow c P st evs = some y.a.now := by
  rintro evs st ⟨pre, rfl, hx⟩
  induction pre generalizing st with
  | nil => cases hx; exact Or.inl rfl
  | cons e es ih =>
    cases hP : P st with
    | true => exact Or.inr ⟨st, _, ⟨[], rfl, rfl⟩, ⟨e :: es, rfl, hx⟩, hP, firstNow_pos hP⟩
    | false =>
      obtain ⟨st', hs, h'⟩ := (isRunB c).cons_some.1 hx
      rw [List.cons_append, firstNow_neg hP hs]
      exact (ih h').imp_right fun ⟨y, mid, hv1, hv2⟩ => ⟨y, mid, visits_cons hs hv1, hv2⟩

theorem firstNow_of_visits {c : Cfg} {P : StB → Bool} {x st : StB} {evs rest : List EvB}
    (hv : Visits c st evs x rest) (hP : P x = true) : ∃ t, firstNow c P st evs = some t ∧ t ≤ x.a.now := by
  rcases firstNow_visits (P := P) hv with h | ⟨y, mid, _, ⟨_, _, hyx⟩, _, h⟩
  · exact ⟨_, h.trans (firstNow_pos hP), Nat.le_refl _⟩
  · exact ⟨_, h, now_le_of_accept hyx⟩

theorem firstNow_of_visits_false {c : Cfg} {P : StB → Bool}
    (hstab : ∀ x e x', stepB c x e = some x' → P x = true → P x' = true) {x st : StB} {evs rest : List EvB}
    (hv : Visits c st evs x rest) (hP : P x = false) : firstNow c P st evs = firstNow c P x rest := by
  rcases firstNow_visits (P := P) hv with h | ⟨y, mid, _, ⟨_, _, hyx⟩, hy, _⟩
  · exact h
  · rw [(isRunB c).invariant (P := fun z => P z = true) hyx hy fun z e z' hz hs => hstab z e z' hs hz] at hP
    cases hP

theorem firstNow_eq_some {c : Cfg} {P : StB → Bool} {st fin : StB} {evs : List EvB} {t : Nat}
    (hacc : acceptB c st evs = some fin) (h : firstNow c P st evs = some t) :
    ∃ x rest, Visits c st evs x rest ∧ P x = true ∧ x.a.now = t := by
  rcases firstNow_visits (P := P) (visits_end hacc) with h' | ⟨y, mid, hv, _, hy, h'⟩
  · rw [h', firstNow_nil] at h
    split at h
    · next hP => cases h; exact ⟨fin, [], visits_end hacc, hP, rfl⟩
    · cases h
  · rw [h'] at h; cases h; exact ⟨y, mid, hv, hy, rfl⟩

theorem firstNow_ge {c : Cfg} {P : StB → Bool} {st fin : StB} {evs : List EvB} {t : Nat}
    (hacc : acceptB c st evs = some fin) (h : firstNow c P st evs = some t) : st.a.now ≤ t := by
  obtain ⟨x, _, ⟨_, _, hx⟩, _, rfl⟩ := firstNow_eq_some hacc h
  exact now_le_of_accept hx

theorem firstNow_eq_max_from {c : Cfg} {st0 fin : StB} {evs : List EvB} (hacc : acceptB c st0 evs = some fin)
    {P0 : StB → Bool} {F : Nat → StB → Bool} {l : List Nat} {Q : StB → Bool}
    (stab0 : ∀ x e x', stepB c x e = some x' → P0 x = true → P0 x' = true)
    (stabF : ∀ r x e x', stepB c x e = some x' → F r x = true → F r x' = true)
    (hfin0 : P0 fin = true) (hfinF : ∀ r ∈ l, F r fin = true) (hfinQ : Q fin = true)
    (himp : ∀ x rest, Visits c st0 evs x rest → Q x = true → P0 x = true ∧ ∀ r ∈ l, F r x = true)
    (htick : ∀ x d rest, Visits c st0 evs x (.tick d :: rest) → P0 x = true → (∀ r ∈ l, F r x = true) →
      Q x = true) :
    (firstNow c Q st0 evs).getD 0 =
      max ((firstNow c P0 st0 evs).getD 0) (sup (l.map fun r => (firstNow c (F r) st0 evs).getD 0)) := by
  have hfin := visits_end hacc
  obtain ⟨tq, hq, hqfin⟩ := firstNow_of_visits hfin hfinQ
  rw [hq, Option.getD_some]
  apply Nat.le_antisymm
  · -- (≤) let `M` bound the first instants of `P0` and the `F r`, and suppose `M < tq`.  The step that takes the clock
    -- beyond `M` is a `tick`, and before it `P0` and every `F r` hold; hence so does `Q`, no later than `M`
    suffices ∀ M, (firstNow c P0 st0 evs).getD 0 ≤ M → (∀ r ∈ l, (firstNow c (F r) st0 evs).getD 0 ≤ M) → tq ≤ M from
      this _ (Nat.le_max_left _ _) fun r hr => Nat.le_trans
        (le_sup_map_of_mem (f := fun r => (firstNow c (F r) st0 evs).getD 0) hr) (Nat.le_max_right _ _)
    intro M hM0 hMF
    apply Nat.le_of_not_lt
    intro hlt
    have hst0 : st0.a.now ≤ M := by
      obtain ⟨t0, h0, _⟩ := firstNow_of_visits hfin hfin0
      rw [h0] at hM0
      exact Nat.le_trans (firstNow_ge hacc h0) hM0
    obtain ⟨a, e, b, y, z, he, hay, hyz, hzb, hy, hz⟩ :=
      (isRunB c).first (fun x => decide (M < x.a.now)) hacc (by simpa using hst0)
        (by simpa using Nat.lt_of_lt_of_le hlt hqfin)
    simp only [decide_eq_false_iff_not, decide_eq_true_eq] at hy hz
    have hvy : Visits c st0 evs y (e :: b) := ⟨a, he, hay⟩
    obtain ⟨d, rfl⟩ : ∃ d, e = .tick d := by
      rcases (StepB.of_stepB hyz).now_cases with h1 | ⟨d, hd, _⟩
      · rw [h1] at hz; exact absurd hz hy
      · exact ⟨d, hd⟩
    have key : ∀ R : StB → Bool, (∀ x e x', stepB c x e = some x' → R x = true → R x' = true) → R fin = true →
        (firstNow c R st0 evs).getD 0 ≤ M → R y = true := by
      intro R stab hR hle
      cases hRy : R y with
      | true => rfl
      | false =>
        obtain ⟨t, ht, _⟩ := firstNow_of_visits hfin hR
        rw [ht, Option.getD_some] at hle
        rw [firstNow_of_visits_false stab hvy hRy, firstNow_neg hRy hyz] at ht
        exact absurd (Nat.le_trans (firstNow_ge hzb ht) hle) (Nat.not_le_of_lt hz)
    obtain ⟨t, ht, hle⟩ := firstNow_of_visits hvy
      (htick y d _ hvy (key P0 stab0 hfin0 hM0) fun r hr => key (F r) (stabF r) (hfinF r hr) (hMF r hr))
    rw [hq] at ht; cases ht
    omega
  · -- (≥) `P0` and every `F r` hold in the first state in which `Q` does
    obtain ⟨xq, rest, hv, hQ, rfl⟩ := firstNow_eq_some hacc hq
    obtain ⟨h0, hF⟩ := himp xq rest hv hQ
    have key : ∀ R : StB → Bool, R xq = true → (firstNow c R st0 evs).getD 0 ≤ xq.a.now := by
      intro R hR
      obtain ⟨t, ht, hle⟩ := firstNow_of_visits hv hR
      rw [ht, Option.getD_some]; exact hle
    exact Nat.max_le.2 ⟨key P0 h0, sup_map_le_iff.2 fun r hr => key (F r) (hF r hr)⟩

theorem firstNow_eq_max (c : Cfg) (evs : List EvB) (fin : StB) (hacc : acceptB c StB.init evs = some fin)
    (P0 : StB → Bool) (F : Nat → StB → Bool) (l : List Nat) (Q : StB → Bool)
    (stab0 : ∀ x e x', stepB c x e = some x' → P0 x = true → P0 x' = true)
    (stabF : ∀ r x e x', stepB c x e = some x' → F r x = true → F r x' = true)
    (hfin0 : P0 fin = true) (hfinF : ∀ r ∈ l, F r fin = true) (hfinQ : Q fin = true)
    (himp : ∀ x rest, Visits c StB.init evs x rest → Q x = true → P0 x = true ∧ ∀ r ∈ l, F r x = true)
    (htick : ∀ x d rest, Visits c StB.init evs x (.tick d :: rest) → P0 x = true → (∀ r ∈ l, F r x = true) →
      Q x = true) :
    (firstNow c Q StB.init evs).getD 0 =
      max ((firstNow c P0 StB.init evs).getD 0) (sup (l.map fun r => (firstNow c (F r) StB.init evs).getD 0)) :=
  firstNow_eq_max_from hacc stab0 stabF hfin0 hfinF hfinQ himp htick

theorem beganP_stable (c : Cfg) (j : Nat) (x : StB) (e : EvB) (x' : StB) (h : stepB c x e = some x')
    (hb : beganP j x = true) : beganP j x' = true := by
  unfold beganP at *
  rcases (StepB.of_stepB h).proj with heq | ⟨ea, _, ha⟩
  · rwa [heq]
  · rw [HistA.step_rflag ha, hb, Bool.true_or]

theorem finished_iff {p : Ph} : finished p = true ↔ p.isDone = true ∨ p = .cancelled := by
  cases p <;> simp [finished, Ph.isDone]

theorem finished_eq (p : Ph) : NestB.Ph.finished p = finished p := by cases p <;> rfl

theorem endedP_stable (c : Cfg) (j : Nat) (x : StB) (e : EvB) (x' : StB) (h : stepB c x e = some x')
    (hb : endedP j x = true) : endedP j x' = true := by
  unfold endedP at *
  rwa [(StepB.of_stepB h).ph_final (finished_iff.1 hb)]

/-- a state of a history of a well-formed plain configuration in which nothing fails, with what is known of it -/
structure Good (c : Cfg) (st : StB) : Prop where
  wf : c.wf = true
  plain : Plain c
  reach : ∃ pre, acceptB c StB.init pre = some st
  A : InvA c st.a
  B : InvB c st
  P : InvP c st
  E : ExitInv c st
  clean : Clean c st

theorem good_of_visits {c : Cfg} (hwf : c.wf = true) (hplain : Plain c) {evs : List EvB}
    (hok : ∀ j ok, EvB.bodyEnd j ok ∈ evs → ok = true) (hnf : ∀ s, EvB.orchFail s ∉ evs) (hnx : EvB.extCancel ∉ evs)
    {x : StB} {rest : List EvB} (hv : Visits c StB.init evs x rest) : Good c x := by
  obtain ⟨pre, rfl, hacc⟩ := hv
  exact ⟨hwf, hplain, ⟨pre, hacc⟩, invA_of_reachB c hwf pre x hacc, invB_reach c hwf pre x hacc,
    invP_reach c hwf pre x hacc, exitInv_reach c hwf pre x hacc,
    clean_reach c hwf hplain pre x (fun j ok hm => hok j ok (List.mem_append_left _ hm))
      (fun s hm => hnf s (List.mem_append_left _ hm)) (fun hm => hnx (List.mem_append_left _ hm)) hacc⟩

theorem ended_iff_done {c : Cfg} {st : StB} (hC : Clean c st) (j : Nat) :
    endedP j st = true ↔ (st.a.ph j).isDone = true := by
  unfold endedP
  rw [finished_iff]
  exact ⟨fun h => h.resolve_right (hC.noCan j), Or.inl⟩

section facts
variable {c : Cfg} {st : StB} (hG : Good c st)
include hG

theorem beganP_iff (j : Nat) : beganP j st = true ↔ st.a.ph j = .running ∨ (st.a.ph j).isDone = true := by
  unfold beganP
  refine ⟨fun hb => ?_, hG.A.rflagOn j⟩
  cases hph : st.a.ph j with
  | running => exact Or.inl rfl
  | done r => exact Or.inr rfl
  | cancelled => exact absurd hph (hG.clean.noCan j)
  | idle => rw [hG.A.rflagOff j (Or.inl hph)] at hb; cases hb
  | queued => rw [hG.A.rflagOff j (Or.inr hph)] at hb; cases hb

theorem ended_began (j : Nat) (h : endedP j st = true) : beganP j st = true :=
  (beganP_iff hG j).2 (Or.inr ((ended_iff_done hG.clean j).1 h))

theorem sched_cases (s : Nat) (hs : c.isSched s = true) (hb : beganP s st = true) :
    st.pcB s = .loop ∨ (st.pcB s).exitOf = some .success ∨ st.pcB s = .over := by
  rcases (beganP_iff hG s).1 hb with h | h
  · obtain ⟨hnb, hno⟩ := hG.P.runPc s hs h
    cases hx : (st.pcB s).exitOf with
    | some x => exact Or.inr (Or.inl (congrArg some (hG.clean.okExit s x hx)))
    | none =>
      cases hpc : st.pcB s with
      | loop => exact Or.inl rfl
      | notBegun => exact absurd hpc hnb
      | over => exact absurd hpc hno
      | _ => rw [hpc] at hx; cases hx
  · exact Or.inr (Or.inr (hG.clean.doneOver s hs h))

theorem left_children_done (s : Nat) (h : (st.pcB s).exitOf = some .success ∨ st.pcB s = .over) :
    ∀ k ∈ c.children s, (st.a.ph k).isDone = true := by
  intro k hk
  rcases h with h | h
  · exact ((hG.E.successMeans s h).1 k hk (hG.plain k (Run.mem_children.1 hk).1).2.2).1
  · exact hG.clean.overDone s h k hk

theorem over_finished (s : Nat) (hs : c.isSched s = true) (ho : st.pcB s = .over) : endedP s st = true := by
  obtain ⟨pre, hacc⟩ := hG.reach
  rw [endedP, ← finished_eq]
  exact NestB.finished_of_over c hG.wf pre st hacc s hs ho

theorem beganP_sched (s : Nat) (hs : c.isSched s = true) : beganP s st = true ↔ st.pcB s ≠ .notBegun := by
  constructor
  · intro hb hn
    rcases sched_cases hG s hs hb with h | h | h <;> simp [hn, PcB.exitOf] at h
  · intro hn
    by_cases ho : st.pcB s = .over
    · exact ended_began hG s (over_finished hG s hs ho)
    · exact (beganP_iff hG s).2 (Or.inl (hG.B.runPh s hn ho))

theorem endedP_sched (s : Nat) (hs : c.isSched s = true) : endedP s st = true ↔ st.pcB s = .over :=
  ⟨fun h => hG.clean.doneOver s hs ((ended_iff_done hG.clean s).1 h), over_finished hG s hs⟩

theorem began_imp (j : Nat) (hj0 : 0 < j) (hjn : j < c.n) (hb : beganP j st = true) :
    beganP (c.parent j) st = true ∧ ∀ r ∈ c.req j, endedP r st = true := by
  have hni : st.a.ph j ≠ .idle := by
    rcases (beganP_iff hG j).1 hb with h | h <;> intro hi <;> simp [hi, Ph.isDone] at h
  constructor
  · rw [beganP_sched hG _ ((wf_of hG.wf).parentSched j hj0 hjn)]
    exact fun hn => hG.A.parentBegun hj0 hjn hni ((hG.B.pcNotBegun _).1 hn)
  · exact fun r hr => (ended_iff_done hG.clean r).2 (hG.A.reqsDone j hj0 hjn hni r hr)

theorem ended_imp (s : Nat) (hs : c.isSched s = true) (he : endedP s st = true) :
    beganP s st = true ∧ ∀ k ∈ c.children s, endedP k st = true :=
  ⟨ended_began hG s he, fun k hk => (ended_iff_done hG.clean k).2
    (left_children_done hG s (Or.inr ((endedP_sched hG s hs).1 he)) k hk)⟩

theorem quiet_began (hcalm : Calm c st.a) (k : Nat) (hk0 : 0 < k) (hkn : k < c.n)
    (hb : beganP (c.parent k) st = true) (hr : ∀ r ∈ c.req k, endedP r st = true) : beganP k st = true := by
  have w := wf_of hG.wf
  have hsn := w.parentLtN hk0 hkn
  have hs := w.parentSched k hk0 hkn
  have hk : k ∈ c.children (c.parent k) := Run.mem_children.2 ⟨hkn, by omega, rfl⟩
  rw [beganP_iff hG]
  rcases sched_cases hG _ hs hb with hl | hx
  · obtain ⟨hidle, hqueued⟩ := hG.A.eager_of_calm w hcalm hsn hs ((hG.B.pcLoop _).1 hl) k hk
    cases hph : st.a.ph k with
    | running => exact Or.inl rfl
    | done r => exact Or.inr rfl
    | cancelled => exact absurd hph (hG.clean.noCan k)
    | queued =>
      rcases hqueued hph with h | ⟨h, _⟩
      · rw [hG.clean.noCreq k] at h; cases h
      · exact absurd (hG.plain _ hsn).1 h
    | idle =>
      obtain ⟨r, hrm, hnd⟩ := hidle hph
      rw [(ended_iff_done hG.clean r).1 (hr r hrm)] at hnd; cases hnd
  · exact Or.inr (left_children_done hG _ hx k hk)

theorem quiet_ended (hq : quietB c st = true) (s : Nat) (hsn : s < c.n) (hs : c.isSched s = true)
    (hb : beganP s st = true) (hk : ∀ k ∈ c.children s, endedP k st = true)
    (hh : ∀ k, k < c.n → st.hph k ≠ .hactive) : endedP s st = true := by
  obtain ⟨pre, hacc⟩ := hG.reach
  exact over_finished hG s hs <|
    NestB.no_end_latency c hG.wf pre st hacc hq s hsn hs ((beganP_sched hG s hs).1 hb)
      (fun k hkm => (finished_eq _).trans (hk k hkm)) fun k hkm => hh k (Run.mem_children.1 hkm).1

theorem all_ended (hover : st.pcB 0 = .over) : ∀ j, j < c.n → endedP j st = true :=
  have w := wf_of hG.wf
  w.parent_ind (over_finished hG 0 w.sched0 hover) fun j hj0 hjn ih =>
    (ended_imp hG _ (w.parentSched j hj0 hjn) ih).2 j (Run.mem_children.2 ⟨hjn, by omega, rfl⟩)

end facts

theorem quiet_of_visits {c : Cfg} {st0 fin x : StB} {evs rest : List EvB} {d : Nat}
    (hacc : acceptB c st0 evs = some fin) (hv : Visits c st0 evs x (.tick d :: rest)) :
    quietB c x = true ∧ Calm c x.a := by
  obtain ⟨pre, rfl, hx⟩ := hv
  obtain ⟨x', hx', hrest⟩ := (isRunB c).append_some.1 hacc
  obtain ⟨z, hs, _⟩ := (isRunB c).cons_some.1 hrest
  cases hx.symm.trans hx'
  exact ⟨(StepB.of_stepB hs).tick_inv.1, (StepB.of_stepB hs).tick_inv.2.2.2⟩

/-- the default `0` of `timingOf` is never used -/
theorem run_defined {c : Cfg} (hwf : c.wf = true) {evs : List EvB} {st : StB}
    (h : acceptB c StB.init evs = some st) (hover : st.pcB 0 = .over) (hplain : Plain c)
    (hok : ∀ j ok, EvB.bodyEnd j ok ∈ evs → ok = true) (hnf : ∀ s, EvB.orchFail s ∉ evs) (hnx : EvB.extCancel ∉ evs)
    (j : Nat) (hj : j < c.n) :
    ∃ tb te, firstNow c (beganP j) StB.init evs = some tb ∧ firstNow c (endedP j) StB.init evs = some te ∧ tb ≤ te := by
  have hgood := @good_of_visits c hwf hplain evs hok hnf hnx
  obtain ⟨te, hte, _⟩ := firstNow_of_visits (visits_end h) (all_ended (hgood (visits_end h)) hover j hj)
  obtain ⟨x, rest, hv, hq, rfl⟩ := firstNow_eq_some h hte
  obtain ⟨tb, htb, hle⟩ := firstNow_of_visits hv (ended_began (hgood hv) j hq)
  exact ⟨tb, _, htb, hte, hle⟩

/-- C10 (d): in a complete history in which nothing fails (no body raises: `hok`; no orchestration fails: `hnf`; the
    top-level task is not cancelled from outside: `hnx`), of a configuration without window, timeout or forever job,
    with shutdown handlers that take no time (`hzero`), the instants at which the jobs begin and end satisfy the
    start-time equations -/
theorem run_sat (c : Cfg) (hwf : c.wf = true) (evs : List EvB) (st : StB)
    (h : acceptB c StB.init evs = some st)
    (hover : st.pcB 0 = .over)
    (hplain : ∀ j, j < c.n → c.window j = 0 ∧ c.timeout j = none ∧ c.forever j = false)
    (hok : ∀ j ok, EvB.bodyEnd j ok ∈ evs → ok = true)
    (hnf : ∀ s, EvB.orchFail s ∉ evs) (hnx : EvB.extCancel ∉ evs)
    (hzero : ∀ a d b sta, evs = a ++ EvB.tick d :: b → acceptB c StB.init a = some sta →
               ∀ k, k < c.n → sta.hph k ≠ .hactive)
    : (timingOf c evs).Sat c (durOf c evs) := by
  have w := wf_of hwf
  have hgood := @good_of_visits c hwf hplain evs hok hnf hnx
  have hG := hgood (visits_end h)
  have hend := all_ended hG hover
  have hbeg : ∀ j, j < c.n → beganP j st = true := fun j hj => ended_began hG j (hend j hj)
  refine ⟨?_, ?_, ?_⟩
  · -- a job begins when its scheduler has begun and the last of its requirements has ended
    intro j hj0 hjn
    have hreq : ∀ r ∈ c.req j, r < c.n := fun r hr => by have := w.reqLt j hj0 hjn r hr; omega
    exact firstNow_eq_max c evs st h (beganP (c.parent j)) (fun r => endedP r) (c.req j) (beganP j)
      (beganP_stable c _) (fun r => endedP_stable c r)
      (hbeg _ (w.parentLtN hj0 hjn)) (fun r hr => hend r (hreq r hr)) (hbeg j hjn)
      (fun x rest hv hq => began_imp (hgood hv) j hj0 hjn hq)
      (fun x d rest hv h0 hF => quiet_began (hgood hv) (quiet_of_visits h hv).2 j hj0 hjn h0 hF)
  · -- the body of an atomic job lasts `dur j`
    intro j hj0 hjn _
    obtain ⟨tb, te, hb, he, hle⟩ := run_defined hwf h hover hplain hok hnf hnx j hjn
    simp only [durOf, timingOf, hb, he, Option.getD_some]
    omega
  · -- a scheduler ends when it has begun and the last of its jobs has ended
    intro s hsn hs
    have hch : ∀ k ∈ c.children s, k < c.n := fun k hk => (Run.mem_children.1 hk).1
    exact firstNow_eq_max c evs st h (beganP s) (fun k => endedP k) (c.children s) (endedP s)
      (beganP_stable c _) (fun k => endedP_stable c k)
      (hbeg s hsn) (fun k hk => hend k (hch k hk)) (hend s hsn)
      (fun x rest hv hq => ended_imp (hgood hv) s hs hq)
      (fun x d rest hv h0 hF => quiet_ended (hgood hv) (quiet_of_visits h hv).1 s hsn hs h0 hF
        (hv.elim fun pre hp => hzero pre d rest x hp.1 hp.2))

/-! What `beganP` and `endedP` read: `B j` is the clock when `grant j` (`runBegin` for the top-level scheduler) is
  accepted; `E j` is the clock when the event that ends the body of `j`, or its nested run, is accepted
  (`LatC.jobEnds`: `bodyEnd j`; for a scheduler the return of its shutdown, or `grant j` / `runBegin` when it has no
  job); and in the states of a history in which nothing fails, for a scheduler, "begun" and "ended" are
  `pcB ≠ .notBegun` and `pcB = .over`. -/

theorem began_at (c : Cfg) (x x' : StB) (e : EvB) (h : stepB c x e = some x') (j : Nat)
    (h0 : beganP j x = false) (h1 : beganP j x' = true) : e = .grant j ∨ (j = 0 ∧ e = .runBegin) := by
  unfold beganP at h0 h1
  rcases (StepB.of_stepB h).proj with heq | ⟨ea, hp, ha⟩
  · rw [heq, h0] at h1; cases h1
  · rw [HistA.step_rflag ha, h0, Bool.false_or] at h1
    cases hp
    case grant k =>
      obtain rfl : k = j := by simpa [begins] using h1
      exact Or.inl rfl
    case runBegin => exact Or.inr ⟨by simpa [begins] using h1, rfl⟩
    all_goals cases h1

theorem ended_at (c : Cfg) (x x' : StB) (e : EvB) (h : stepB c x e = some x') (j : Nat)
    (h0 : endedP j x = false) (h1 : endedP j x' = true) (hnc : x'.a.ph j ≠ .cancelled) :
    LatC.jobEnds c x j e = true := by
  cases hw : LatC.jobEnds c x j e with
  | true => rfl
  | false =>
    have := LatC.done_back c x x' e h j hw ((finished_iff.1 h1).resolve_right hnc)
    unfold endedP at h0
    rw [finished_iff.2 (Or.inl this)] at h0; cases h0

theorem reads_meaning (c : Cfg) (hwf : c.wf = true) (evs : List EvB)
    (hplain : ∀ j, j < c.n → c.window j = 0 ∧ c.timeout j = none ∧ c.forever j = false)
    (hok : ∀ j ok, EvB.bodyEnd j ok ∈ evs → ok = true) (hnf : ∀ s, EvB.orchFail s ∉ evs) (hnx : EvB.extCancel ∉ evs)
    (x : StB) (rest : List EvB) (hv : Visits c StB.init evs x rest) :
    (∀ j, (beganP j x = true ↔ x.a.ph j = .running ∨ (x.a.ph j).isDone = true) ∧
          (endedP j x = true ↔ (x.a.ph j).isDone = true)) ∧
    (∀ s, c.isSched s = true → (beganP s x = true ↔ x.pcB s ≠ .notBegun) ∧ (endedP s x = true ↔ x.pcB s = .over)) := by
  have hG := good_of_visits hwf hplain hok hnf hnx hv
  exact ⟨fun j => ⟨beganP_iff hG j, ended_iff_done hG.clean j⟩,
    fun s hs => ⟨beganP_sched hG s hs, endedP_sched hG s hs⟩⟩

/-- under the hypotheses of `run_sat` nothing fails, in any state of the run -/
theorem nothing_fails (c : Cfg) (hwf : c.wf = true) (evs : List EvB)
    (hplain : ∀ j, j < c.n → c.window j = 0 ∧ c.timeout j = none ∧ c.forever j = false)
    (hok : ∀ j ok, EvB.bodyEnd j ok ∈ evs → ok = true) (hnf : ∀ s, EvB.orchFail s ∉ evs) (hnx : EvB.extCancel ∉ evs)
    (x : StB) (rest : List EvB) (hv : Visits c StB.init evs x rest) :
    (∀ k, x.a.creq k = false) ∧ (∀ k, x.a.ph k ≠ .cancelled) ∧ (∀ k ex, x.a.ph k ≠ .done (.exc ex)) ∧
    (∀ s y, (x.pcB s).exitOf = some y → y = .success) :=
  have hC := (good_of_visits hwf hplain hok hnf hnx hv).clean
  ⟨hC.noCreq, hC.noCan, hC.noExc, hC.okExit⟩

theorem okCheck_spec (evs : List EvB) (h : okCheck evs = true) : ∀ j ok, EvB.bodyEnd j ok ∈ evs → ok = true :=
  fun _ _ hm => List.all_eq_true.1 h _ hm

theorem nfCheck_spec (evs : List EvB) (h : nfCheck evs = true) :
    (∀ s, EvB.orchFail s ∉ evs) ∧ EvB.extCancel ∉ evs := by
  constructor
  · intro s hm; cases List.all_eq_true.1 h _ hm
  · intro hm; cases List.all_eq_true.1 h _ hm

theorem zeroCheck_spec (c : Cfg) (evs : List EvB) :
    ∀ st, zeroCheck c st evs = true →
      ∀ a d b sta, evs = a ++ EvB.tick d :: b → acceptB c st a = some sta → ∀ k, k < c.n → sta.hph k ≠ .hactive := by
  intro st hz a d b sta he hacc k hk
  subst he
  induction a generalizing st with
  | nil =>
    cases hacc
    simp only [List.nil_append, zeroCheck, Bool.and_eq_true, List.all_eq_true, List.mem_range] at hz
    simpa using hz.1 k hk
  | cons e a ih =>
    obtain ⟨st1, hs, h1⟩ := (isRunB c).cons_some.1 hacc
    simp only [List.cons_append, zeroCheck, hs, Bool.and_eq_true] at hz
    exact ih st1 h1 hz.2

theorem plainCheck_parts {c : Cfg} {evs : List EvB} (h : plainCheck c evs = true) :
    c.wf = true ∧ (∃ st, acceptB c StB.init evs = some st ∧ st.pcB 0 = .over) ∧
    (∀ j, j < c.n → c.window j = 0 ∧ c.timeout j = none ∧ c.forever j = false) ∧
    okCheck evs = true ∧ nfCheck evs = true ∧ zeroCheck c StB.init evs = true := by
  simp only [plainCheck, Bool.and_eq_true, beq_iff_eq, List.all_eq_true, List.mem_range] at h
  obtain ⟨⟨⟨⟨⟨h1, h2⟩, h3⟩, h4⟩, h4'⟩, h5⟩ := h
  exact ⟨h1, by simpa using h2, fun j hj => by simpa [and_assoc] using h3 j hj, h4, h4', h5⟩

/-! The hypotheses of `run_sat` can be met: atomic job `1`, then nested scheduler `2` (atomic jobs `3`, then `4`), then
  atomic job `5`. -/

def exCfg : Cfg :=
  { n := 6, parent := fun j => if j = 3 ∨ j = 4 then 2 else 0, isSched := fun j => j == 0 || j == 2,
    req := fun j => if j = 2 then [1] else if j = 4 then [3] else if j = 5 then [2] else [],
    critical := fun _ => false, forever := fun _ => false, window := fun _ => 0, timeout := fun _ => none,
    sdTimeout := fun _ => none, topPure := true }

def exEvs : List EvB :=
  [.runBegin, .grant 1, .tick 2, .bodyEnd 1 true, .waitReturn 0, .react 0,
   .grant 2, .grant 3, .tick 3, .bodyEnd 3 true, .waitReturn 2, .react 2,
   .grant 4, .tick 1, .bodyEnd 4 true, .waitReturn 2, .react 2,
   .tidyReturn 2 0, .hEnd 3, .hEnd 4, .sdWaitReturn 2 0, .waitReturn 0, .react 0,
   .grant 5, .tick 4, .bodyEnd 5 true, .waitReturn 0, .react 0,
   .tidyReturn 0 0, .hEnd 1, .hStep 2, .hEnd 5, .sdWaitReturn 0 0]

theorem exCfg_plain : plainCheck exCfg exEvs = true := by decide

example : exCfg.wf = true ∧
    (acceptB exCfg StB.init exEvs).map (fun st => decide (st.pcB 0 = .over)) = some true :=
  ⟨(plainCheck_parts exCfg_plain).1, by obtain ⟨st, h, ho⟩ := (plainCheck_parts exCfg_plain).2.1; simp [h, ho]⟩

example : (∀ j, j < exCfg.n → exCfg.window j = 0 ∧ exCfg.timeout j = none ∧ exCfg.forever j = false) ∧
    okCheck exEvs = true ∧ nfCheck exEvs = true ∧ zeroCheck exCfg StB.init exEvs = true :=
  (plainCheck_parts exCfg_plain).2.2

example : (List.range 6).map (timingOf exCfg exEvs).B = [0, 0, 2, 2, 5, 6] ∧
    (List.range 6).map (timingOf exCfg exEvs).E = [10, 2, 6, 5, 6, 10] ∧
    (List.range 6).map (durOf exCfg exEvs) = [10, 2, 4, 3, 1, 4] := by
  decide

example : (timingOf exCfg exEvs).Sat exCfg (durOf exCfg exEvs) := by
  obtain ⟨hwf, ⟨st, h, hover⟩, hplain, hok, hnf, hz⟩ := plainCheck_parts exCfg_plain
  exact run_sat exCfg hwf exEvs st h hover hplain (okCheck_spec exEvs hok) (nfCheck_spec exEvs hnf).1
    (nfCheck_spec exEvs hnf).2 (zeroCheck_spec exCfg exEvs StB.init hz)

/-- `hzero` is needed: the same history with a shutdown handler of the nested scheduler `2` that takes one unit of
    time satisfies all the other hypotheses, and `2` ends (at 7) after the last of its jobs did (at 6) -/
def exSlow : List EvB :=
  [.runBegin, .grant 1, .tick 2, .bodyEnd 1 true, .waitReturn 0, .react 0,
   .grant 2, .grant 3, .tick 3, .bodyEnd 3 true, .waitReturn 2, .react 2,
   .grant 4, .tick 1, .bodyEnd 4 true, .waitReturn 2, .react 2,
   .tidyReturn 2 0, .tick 1, .hEnd 3, .hEnd 4, .sdWaitReturn 2 0, .waitReturn 0, .react 0,
   .grant 5, .tick 4, .bodyEnd 5 true, .waitReturn 0, .react 0,
   .tidyReturn 0 0, .hEnd 1, .hStep 2, .hEnd 5, .sdWaitReturn 0 0]

example : (acceptB exCfg StB.init exSlow).map (fun st => decide (st.pcB 0 = .over)) = some true ∧
    okCheck exSlow = true ∧ zeroCheck exCfg StB.init exSlow = false ∧
    (timingOf exCfg exSlow).E 2 = 7 ∧
    max ((timingOf exCfg exSlow).B 2) (sup ((exCfg.children 2).map (timingOf exCfg exSlow).E)) = 6 := by
  decide

theorem sup_nil : sup [] = 0 := FlatEq.sup_nil

end AJ.Proofs.FlatB
