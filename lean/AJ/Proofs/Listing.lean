/-
  `listing` and `assignIds` (`list()`, `_set_sched_ids`): the listing of a scheduler is its topological order with
  the listing of each nested scheduler inserted after it (`listing_ok_iff`, `listing_ind`), and the numbering is
  the listing numbered in order (`assignIds_eq`); what C15 / C20 state about them follows from these.
  `foldlM_append_ok` with `got` is the form of every fold in `Except` that only appends (`listing`, `_dot_body`,
  `edgesOf`).
-/
import AJ.Proofs.C15Aux
namespace AJ.Proofs.C15

-- three facts about lists that the library lacks
theorem sublist_flatMap_of_mem {α β : Type} {f : α → List β} {l : List α} {a : α} (h : a ∈ l) :
    (f a).Sublist (l.flatMap f) :=
  List.flatMap_def ▸ List.sublist_flatten_of_mem (List.mem_map_of_mem h)

theorem sublist_flatMap_cons {α : Type} (f : α → List α) : ∀ l : List α, l.Sublist (l.flatMap fun k => k :: f k)
  | [] => .slnil
  | a :: l => by
    rw [List.flatMap_cons]
    exact (List.cons_sublist_cons.2 (List.nil_sublist _)).append (sublist_flatMap_cons f l)

theorem map_inj_of_nodup {α β : Type} (f : α → β) (l : List α) (h : (l.map f).Nodup) :
    ∀ x ∈ l, ∀ y ∈ l, f x = f y → x = y :=
  have h := List.pairwise_map.1 h
  fun _ hx _ hy => List.Pairwise.forall_of_forall_of_flip (R := fun x y => f x = f y → x = y)
    (fun _ _ _ => rfl) (h.imp fun ne e => absurd e ne) (h.imp fun ne e => absurd e.symm ne) hx hy

def idStep (t : T) (fuel : Nat) (acc : Nat × List (Nat × Nat)) (j : Nat) :
    Except Err (Nat × List (Nat × Nat)) :=
  if t.isSched j then
    match assignIds t fuel j (acc.1 + 1) with
    | .error e => .error e
    | .ok (nxt, sub) => .ok (nxt, acc.2 ++ (j, acc.1) :: sub)
  else .ok (acc.1 + 1, acc.2 ++ [(j, acc.1)])

def listStep (t : T) (fuel : Nat) (acc : List Nat) (j : Nat) : Except Err (List Nat) :=
  if t.isSched j then
    match listing t fuel j with
    | .error e => .error e
    | .ok sub => .ok (acc ++ j :: sub)
  else .ok (acc ++ [j])

theorem assignIds_succ (t : T) (fuel s start : Nat) :
    assignIds t (fuel + 1) s start =
      match topo t s with
      | .error e => .error e
      | .ok l => l.foldlM (idStep t fuel) (start, []) := rfl

theorem listing_succ (t : T) (fuel s : Nat) :
    listing t (fuel + 1) s =
      match topo t s with
      | .error e => .error e
      | .ok l => l.foldlM (listStep t fuel) [] := rfl

/-- a fold in `Except` whose steps only append: it succeeds iff the side condition `G` of every step holds, and
    the result is the `flatMap` of what the steps append -/
theorem foldlM_append_ok {α γ ε : Type} (f : List γ → α → Except ε (List γ)) (B : α → List γ) (G : α → Prop)
    (hf : ∀ acc k mid, f acc k = .ok mid ↔ (mid = acc ++ B k ∧ G k)) :
    ∀ (js : List α) (acc r : List γ),
      js.foldlM f acc = .ok r ↔ (r = acc ++ js.flatMap B ∧ ∀ k ∈ js, G k) := by
  intro js
  induction js with
  | nil => intro acc r; simp [List.foldlM_nil, pure, Except.pure, eq_comm]
  | cons k js ih =>
    intro acc r
    rw [List.foldlM_cons, List.flatMap_cons, List.forall_mem_cons]
    cases hk : f acc k with
    | error e =>
      refine ⟨fun h => (by cases h), fun h => ?_⟩
      have := (hf acc k _).2 ⟨rfl, h.2.1⟩
      rw [hk] at this; cases this
    | ok mid =>
      obtain ⟨rfl, hG⟩ := (hf acc k mid).1 hk
      show js.foldlM f (acc ++ B k) = .ok r ↔ _
      rw [ih, List.append_assoc]
      exact ⟨fun h => ⟨h.1, hG, h.2⟩, fun h => ⟨h.1, h.2.2⟩⟩

def got {α : Type} [Inhabited α] : Except Err α → α
  | .ok a => a
  | .error _ => default

theorem ok_got {α : Type} [Inhabited α] {x : Except Err α} {a : α} (h : x = .ok a) : x = .ok (got x) := by
  rw [h]; rfl

/-- what `listing` inserts after member `k` -/
def subOf (t : T) (fuel k : Nat) : List Nat :=
  if t.isSched k then got (listing t fuel k) else []

theorem subOf_atomic {t : T} {fuel k : Nat} (hk : t.isSched k = false) : subOf t fuel k = [] := by
  simp [subOf, hk]

theorem subOf_ok {t : T} {fuel k : Nat} {l : List Nat} (hk : t.isSched k = true) (h : listing t fuel k = .ok l) :
    subOf t fuel k = l := by
  simp [subOf, hk, h, got]

theorem listStep_ok_iff (t : T) (fuel : Nat) (acc : List Nat) (k : Nat) (mid : List Nat) :
    listStep t fuel acc k = .ok mid ↔
      (mid = acc ++ k :: subOf t fuel k ∧ (t.isSched k = true → listing t fuel k = .ok (subOf t fuel k))) := by
  unfold listStep subOf
  cases hk : t.isSched k
  · simp [eq_comm]
  · cases listing t fuel k <;> simp [got, eq_comm]

theorem listing_ok_iff (t : T) (fuel s : Nat) (l : List Nat) :
    listing t (fuel + 1) s = .ok l ↔ ∃ lt, topo t s = .ok lt ∧
      l = lt.flatMap (fun k => k :: subOf t fuel k) ∧
      ∀ k ∈ lt, t.isSched k = true → listing t fuel k = .ok (subOf t fuel k) := by
  rw [listing_succ]
  cases topo t s with
  | error e => simp
  | ok lt => simpa using foldlM_append_ok _ _ _ (listStep_ok_iff t fuel) lt [] l

/-- what every proof about a successful `listing` starts from: by induction on the nesting, `l` is the
    topological order `lt` with a list `sub k` (empty for an atomic `k`) inserted after each `k` -/
theorem listing_ind (t : T) (P : Nat → List Nat → Prop)
    (step : ∀ s lt (sub : Nat → List Nat), topo t s = .ok lt →
      (∀ k ∈ lt, t.isSched k = true → P k (sub k)) → (∀ k, t.isSched k = false → sub k = []) →
      P s (lt.flatMap fun k => k :: sub k)) :
    ∀ fuel s l, listing t fuel s = .ok l → P s l := by
  intro fuel
  induction fuel with
  | zero => intro s l h; cases h
  | succ fuel ih =>
    intro s l h
    obtain ⟨lt, ht, rfl, hsub⟩ := (listing_ok_iff t fuel s l).1 h
    exact step s lt _ ht (fun k hk hks => ih k _ (hsub k hk hks)) fun _ => subOf_atomic

theorem listing_desc (t : T) (fuel : Nat) (j : Nat) (sub : List Nat) (hj : t.isSched j = true)
    (h : listing t fuel j = .ok sub) : ∀ d ∈ sub, Desc t j d := by
  refine listing_ind t (fun j l => t.isSched j = true → ∀ d ∈ l, Desc t j d) ?_ fuel j sub h hj
  intro s lt sub ht ih hat hs d hd
  obtain ⟨k, hk, hd⟩ := List.mem_flatMap.1 hd
  have hkm := (mem_topo ht).1 hk
  rcases List.mem_cons.1 hd with rfl | hd
  · exact .child hs hkm
  · cases hks : t.isSched k with
    | false => rw [hat k hks] at hd; cases hd
    | true => exact .deeper hs hkm (ih k hk hks hks d hd)

theorem listing_topo (t : T) (fuel s : Nat) (l : List Nat) (h : listing t fuel s = .ok l) :
    ∀ s', In t s s' → t.isSched s' = true → ∃ l', topo t s' = .ok l' := by
  refine listing_ind t (fun s _ => ∀ s', In t s s' → t.isSched s' = true → ∃ l', topo t s' = .ok l') ?_ fuel s l h
  intro s lt sub ht ih _ s' hs' hss'
  rcases hs' with rfl | hd
  · exact ⟨lt, ht⟩
  · obtain ⟨k, hk, hks'⟩ := hd.first
    exact ih k ((mem_topo ht).2 hk) (hks'.sched hss') s' hks' hss'

theorem listing_subtree (t : T) (fuel s : Nat) (l : List Nat) (hs : t.isSched s = true) (htree : C16.TreeAt t s)
    (h : listing t fuel s = .ok l) : l.Nodup ∧ ∀ x, x ∈ l ↔ Desc t s x := by
  refine listing_ind t (fun s l => t.isSched s = true → C16.TreeAt t s → l.Nodup ∧ ∀ x, x ∈ l ↔ Desc t s x) ?_
    fuel s l h hs htree
  intro s lt sub ht ih hat hs htree
  have hblk : ∀ k ∈ lt, (k :: sub k).Nodup ∧ ∀ x, x ∈ k :: sub k ↔ In t k x := by
    intro k hk
    cases hks : t.isSched k with
    | false =>
      have hno : ∀ x, ¬ Desc t k x := fun x h => by simp [h.sched] at hks
      rw [hat k hks]
      exact ⟨by simp, fun x => by simp [In, hno]⟩
    | true =>
      have hk' := htree.sub hs ((mem_topo ht).1 hk)
      obtain ⟨h1, h2⟩ := ih k hk hks hks hk'
      refine ⟨List.nodup_cons.2 ⟨fun h => ?_, h1⟩, fun x => by rw [List.mem_cons, h2]; rfl⟩
      have := (hk'.desc_lt ((h2 k).1 h)).1
      omega
  refine ⟨htree.nodup_blocks hs _ lt (topo_nodup ht) (fun _ => (mem_topo ht).1)
    fun k hk => ⟨(hblk k hk).1, fun x => ((hblk k hk).2 x).1⟩, fun x => ?_⟩
  rw [List.mem_flatMap]
  constructor
  · rintro ⟨k, hk, hx⟩
    exact .of_child hs ((mem_topo ht).1 hk) (((hblk k hk).2 x).1 hx)
  · intro hx
    obtain ⟨k, hk, hkx⟩ := hx.first
    exact ⟨k, (mem_topo ht).2 hk, ((hblk k ((mem_topo ht).2 hk)).2 x).2 hkx⟩

theorem listing_order (t : T) (fuel s : Nat) (l : List Nat) (hs : t.isSched s = true) (htree : C16.TreeAt t s)
    (h : listing t fuel s = .ok l) :
    ∀ p x y, In t s p → x ∈ t.mem p → y ∈ t.mem p → y ∈ t.req x → [y, x].Sublist l := by
  refine listing_ind t (fun s l => t.isSched s = true → C16.TreeAt t s → ∀ p x y, In t s p → x ∈ t.mem p →
    y ∈ t.mem p → y ∈ t.req x → [y, x].Sublist l) ?_ fuel s l h hs htree
  intro s lt sub ht ih _ hs htree p x y hp hx hy hreq
  -- `p` is `s` (the order of `topo`), or lies in the block of a member `k` of `s`
  rcases hp with rfl | hp
  · obtain ⟨a, b, hab⟩ := List.append_of_mem ((mem_topo ht).2 hx)
    refine .trans ?_ (sublist_flatMap_cons sub lt)
    rw [hab]
    exact (List.singleton_sublist.2 (topo_order t p lt ht a x b hab y hreq)).append
      (List.cons_sublist_cons.2 (List.nil_sublist b))
  · obtain ⟨k, hk, hpk⟩ := hp.first
    have hks : t.isSched k = true := by
      rcases hpk with rfl | hpk
      · cases hsk : t.isSched p with
        | true => rfl
        | false => rw [htree.atomic p hsk] at hx; cases hx
      · exact hpk.sched
    exact ((ih k ((mem_topo ht).2 hk) hks hks (htree.sub hs hk) p x y hpk hx hy hreq).trans
      (List.sublist_cons_self k _)).trans (sublist_flatMap_of_mem (f := fun k => k :: sub k) ((mem_topo ht).2 hk))

def number (a : Nat) (l : List Nat) : Nat × List (Nat × Nat) := (a + l.length, l.zip (List.range' a l.length))

theorem number_append (a : Nat) (l r : List Nat) :
    number a (l ++ r) = ((number (a + l.length) r).1, (number a l).2 ++ (number (a + l.length) r).2) := by
  simp only [number, List.length_append, ← List.range'_append_1, Nat.add_assoc]
  rw [List.zip_append (by simp)]

theorem assignIds_eq (t : T) : ∀ fuel s start,
    assignIds t fuel s start = (listing t fuel s).map (number start) := by
  intro fuel
  induction fuel with
  | zero => intro s start; rfl
  | succ fuel ihf =>
    intro s start
    rw [assignIds_succ, listing_succ]
    cases topo t s with
    | error e => rfl
    | ok lt =>
      -- the two folds run in step: the state of the first is the numbering of the state of the second
      suffices h : ∀ (js accL : List Nat), js.foldlM (idStep t fuel) (number start accL) =
          (js.foldlM (listStep t fuel) accL).map (number start) from h lt []
      intro js
      induction js with
      | nil => intro accL; rfl
      | cons j js ih =>
        intro accL
        rw [List.foldlM_cons, List.foldlM_cons]
        have hstep : idStep t fuel (number start accL) j = (listStep t fuel accL j).map (number start) := by
          unfold idStep listStep
          split
          · rw [ihf]
            cases listing t fuel j with
            | error e => rfl
            | ok sub =>
              simp only [Except.map, number_append start accL (j :: sub)]
              simp [number, List.range'_succ, Nat.add_assoc, Nat.add_comm 1]
          · simp only [Except.map, number_append start accL [j]]
            simp [number, List.range'_succ]
        rw [hstep]
        cases listStep t fuel accL j with
        | error e => rfl
        | ok mid => exact ih mid

end AJ.Proofs.C15

namespace AJ.Proofs.Gap3
open AJ.Proofs.C15

set_option linter.unusedVariables false in
/-- C15/C20 (`list()` / `_set_sched_ids`): in a tree, the listing of scheduler `s` is duplicate-free and contains
    exactly the jobs of the subtree of `s`, at any depth. (`hnd` is not needed: a successful `topo` already implies
    that the member lists are duplicate-free.) -/
theorem listing_exact (t : T) (fuel s : Nat) (l : List Nat) (hs : t.isSched s = true) (htree : AJ.Proofs.C16.TreeAt t s)
    (hnd : ∀ s', (s' = s ∨ Desc t s s') → (t.mem s').Nodup) (h : listing t fuel s = .ok l) :
    l.Nodup ∧ ∀ x, x ∈ l ↔ Desc t s x :=
  listing_subtree t fuel s l hs htree h

end AJ.Proofs.Gap3

namespace AJ.Proofs.Gap4
open AJ.Proofs.C16

set_option linter.unusedVariables false in
/-- C20 ("exactly one" clauses, and `list()`): on a tree, the listing of scheduler `s` contains every job of the
    subtree of `s` (at any depth) exactly once, and nothing else. (`hnd` is not needed.) -/
theorem listing_exact (t : T) (fuel s : Nat) (l : List Nat) (hs : t.isSched s = true) (htree : TreeAt t s)
    (hnd : ∀ s', (s' = s ∨ Desc t s s') → (t.mem s').Nodup) (h : listing t fuel s = .ok l) :
    l.Nodup ∧ ∀ x, x ∈ l ↔ Desc t s x :=
  C15.listing_subtree t fuel s l hs htree h

/-- C20 (totality from the property's premise): on a tree of schedulers whose members are duplicate-free, closed and
    acyclic at every level, `list()` (hence `_set_sched_ids`, `dot_format()`) does not raise, the fuel `n` being enough. -/
theorem listing_total (t : T) (fuel s : Nat) (hs : t.isSched s = true) (hlt : s < t.n) (hfuel : t.n - s ≤ fuel) (htree : TreeAt t s)
    (hok : ∀ s', (s' = s ∨ Desc t s s') → t.isSched s' = true → (t.mem s').Nodup ∧ Closed t s' ∧ Acyclic t s') :
    ∃ l, listing t fuel s = .ok l := by
  refine fuel_ind t (fun fuel s => (∀ s', In t s s' → t.isSched s' = true →
    (t.mem s').Nodup ∧ Closed t s' ∧ Acyclic t s') → ∃ l, listing t fuel s = .ok l)
    (fun fuel s hs ih hok => ?_) fuel s hs hlt hfuel (fun s' h _ => htree.lt s' h) hok
  obtain ⟨hnd, hcl, hac⟩ := hok s (In.root t s) hs
  obtain ⟨lt, ht⟩ := C15.topo_ok_of_acyclic t s hnd hcl hac
  refine ⟨_, (C15.listing_ok_iff t fuel s _).2 ⟨lt, ht, rfl, fun k hk hks => ?_⟩⟩
  have hkm := (C15.mem_topo ht).1 hk
  obtain ⟨sub, hsub⟩ := ih k hkm hks fun s' hs' => hok s' (.of_child hs hkm hs')
  rw [C15.subOf_ok hks hsub]; exact hsub

end AJ.Proofs.Gap4
