/-
  What the building blocks of `interp` (`reqOne`, `reqArg` / `reqArgs`, `chain`, `givePending`, `register`) do to each
  component of the heap; the additive `requires` in closed form (`req_add_eq`); `interp` statement by statement
  without the branch of the exception that cannot be raised (`interp_*`).
-/
import AJ.Spec
import AJ.Proofs.ListSet
namespace AJ.Proofs.C19

theorem setReq_self (h : Heap) (j : Nat) : h.setReq j (h.req j) = h := by
  cases h with
  | mk req sj ss m sp =>
    simp only [Heap.setReq]
    congr 1
    funext k
    split <;> simp_all

theorem setReq_setReq (h : Heap) (j : Nat) (a b : List Nat) :
    (h.setReq j a).setReq j b = h.setReq j b := by
  simp only [Heap.setReq]
  congr 1
  funext k
  split <;> rfl

@[simp] theorem setReq_req_self (h : Heap) (j : Nat) (l : List Nat) : (h.setReq j l).req j = l := by
  simp [Heap.setReq]

theorem setReq_req_ne (h : Heap) (j k : Nat) (l : List Nat) (hk : k ≠ j) :
    (h.setReq j l).req k = h.req k := by
  simp [Heap.setReq, hk]

@[simp] theorem setSeqPending_req (h : Heap) (q : Nat) (l : List Nat) :
    (h.setSeqPending q l).req = h.req := rfl
@[simp] theorem setSeqPending_seqJobs (h : Heap) (q : Nat) (l : List Nat) :
    (h.setSeqPending q l).seqJobs = h.seqJobs := rfl
@[simp] theorem setSeqPending_mem (h : Heap) (q : Nat) (l : List Nat) :
    (h.setSeqPending q l).mem = h.mem := rfl
@[simp] theorem setSeqPending_seqSched (h : Heap) (q : Nat) (l : List Nat) :
    (h.setSeqPending q l).seqSched = h.seqSched := rfl
@[simp] theorem setSeqPending_seqPending_self (h : Heap) (q : Nat) (l : List Nat) :
    (h.setSeqPending q l).seqPending q = l := by
  simp [Heap.setSeqPending]
theorem setSeqPending_seqPending_ne (h : Heap) (q k : Nat) (l : List Nat) (hk : k ≠ q) :
    (h.setSeqPending q l).seqPending k = h.seqPending k := by
  simp [Heap.setSeqPending, hk]
@[simp] theorem setSeqJobs_seqPending (h : Heap) (q : Nat) (l : List Nat) :
    (h.setSeqJobs q l).seqPending = h.seqPending := rfl
@[simp] theorem setSeqSched_seqPending (h : Heap) (q : Nat) (s : Option Nat) :
    (h.setSeqSched q s).seqPending = h.seqPending := rfl
@[simp] theorem setReq_seqPending (h : Heap) (j : Nat) (l : List Nat) :
    (h.setReq j l).seqPending = h.seqPending := rfl
@[simp] theorem setMem_seqPending (h : Heap) (s : Nat) (l : List Nat) :
    (h.setMem s l).seqPending = h.seqPending := rfl

@[simp] theorem register_req (h s js) : (register h s js).req = h.req := by
  cases s <;> rfl

@[simp] theorem register_seqJobs (h s js) : (register h s js).seqJobs = h.seqJobs := by
  cases s <;> rfl

@[simp] theorem register_seqPending (h s js) : (register h s js).seqPending = h.seqPending := by
  cases s <;> rfl

@[simp] theorem register_seqSched (h s js) : (register h s js).seqSched = h.seqSched := by
  cases s <;> rfl

theorem reqOne_frame (j : Nat) (rm : Bool) (h : Heap) (r : Nat) : ∃ l, (reqOne j rm h r).1 = h.setReq j l := by
  unfold reqOne
  split
  · split
    · exact ⟨_, rfl⟩
    · exact ⟨_, (setReq_self h j).symm⟩
  · split
    · exact ⟨_, (setReq_self h j).symm⟩
    · exact ⟨_, rfl⟩

theorem reqOne_req_ne (j : Nat) (rm : Bool) (h : Heap) (r k : Nat) (hk : k ≠ j) :
    (reqOne j rm h r).1.req k = h.req k := by
  obtain ⟨l, e⟩ := reqOne_frame j rm h r; rw [e]; exact setReq_req_ne _ _ _ _ hk

theorem reqOne_false_eq (j : Nat) (h : Heap) (r : Nat) :
    reqOne j false h r = (h.setReq j (unionNew (h.req j) ([r].filter (· ≠ j))), none) := by
  unfold reqOne
  by_cases hr : r = j
  · simp [hr, unionNew, setReq_self]
  · simp [hr, unionNew]

theorem reqOne_false_req (j : Nat) (h : Heap) (r x : Nat) :
    x ∈ (reqOne j false h r).1.req j ↔ x ∈ h.req j ∨ (x = r ∧ x ≠ j) := by
  simp [reqOne_false_eq, mem_unionNew]

theorem reqOne_false_mono (j : Nat) (h : Heap) (r x y : Nat) (hy : y ∈ h.req x) :
    y ∈ (reqOne j false h r).1.req x := by
  by_cases hx : x = j
  · subst hx; rw [reqOne_false_req]; exact Or.inl hy
  · rw [reqOne_req_ne _ _ _ _ _ hx]; exact hy

theorem reqOne_noself (j : Nat) (rm : Bool) (h : Heap) (r : Nat) (hinv : ∀ k, k ∉ h.req k) :
    ∀ k, k ∉ (reqOne j rm h r).1.req k := by
  intro k
  by_cases hk : k = j
  · subst hk
    cases rm with
    | false =>
      rw [reqOne_false_req]
      rintro (h | ⟨_, h⟩)
      · exact hinv _ h
      · exact h rfl
    | true =>
      unfold reqOne; simp only [if_true]
      split
      · simp only [setReq_req_self]
        intro hm
        exact hinv _ (List.mem_of_mem_erase hm)
      · exact hinv _
  · rw [reqOne_req_ne _ _ _ _ _ hk]; exact hinv k

/-- `reqArg` / `reqArgs` only iterate `reqOne`, so an invariant of `reqOne j rm` is one of theirs -/
theorem req_lift (j : Nat) (rm : Bool) (P : Heap → Prop)
    (step : ∀ h r, P h → P (reqOne j rm h r).1) :
    (∀ (h : Heap) (a : Arg), P h → P (reqArg j rm h a).1) ∧
    (∀ (h : Heap) (as : List Arg), P h → P (reqArgs j rm h as).1) := by
  apply reqArg.mutual_induct j rm (fun h a => P h → P (reqArg j rm h a).1)
    (fun h as => P h → P (reqArgs j rm h as).1)
  · intro h hp; simpa [reqArg] using hp
  · intro h r hp; simpa [reqArg] using step h r hp
  · intro h q hq hp; simp only [reqArg, hq]; exact hp
  · intro h q r hq hp; simp only [reqArg, hq]; exact step h r hp
  · intro h xs ih hp; simp only [reqArg]; exact ih hp
  · intro h hp; simpa [reqArgs] using hp
  · intro h a as h' e heq ih hp
    simp only [reqArgs, heq]
    have := ih hp; rw [heq] at this; exact this
  · intro h a as h' heq ih1 ih2 hp
    simp only [reqArgs, heq]
    have := ih1 hp; rw [heq] at this; exact ih2 this

theorem req_frame (j : Nat) (rm : Bool) (h : Heap) :
    (∀ a, ∃ l, (reqArg j rm h a).1 = h.setReq j l) ∧ (∀ as, ∃ l, (reqArgs j rm h as).1 = h.setReq j l) := by
  have step : ∀ h' r, (∃ l, h' = h.setReq j l) → ∃ l, (reqOne j rm h' r).1 = h.setReq j l := by
    rintro _ r ⟨l, rfl⟩
    obtain ⟨l', e⟩ := reqOne_frame j rm (h.setReq j l) r
    exact ⟨l', by rw [e, setReq_setReq]⟩
  have := req_lift j rm (fun h' => ∃ l, h' = h.setReq j l) step
  have h0 : ∃ l, h = h.setReq j l := ⟨_, (setReq_self h j).symm⟩
  exact ⟨fun a => this.1 h a h0, fun as => this.2 h as h0⟩

theorem reqArgs_seqJobs (j rm h as) : (reqArgs j rm h as).1.seqJobs = h.seqJobs := by
  obtain ⟨l, e⟩ := (req_frame j rm h).2 as; rw [e]; rfl
theorem reqArg_seqJobs (j rm h a) : (reqArg j rm h a).1.seqJobs = h.seqJobs := by
  obtain ⟨l, e⟩ := (req_frame j rm h).1 a; rw [e]; rfl
theorem reqArg_mem (j rm h a) : (reqArg j rm h a).1.mem = h.mem := by
  obtain ⟨l, e⟩ := (req_frame j rm h).1 a; rw [e]; rfl
theorem reqArgs_seqPending (j rm h as) : (reqArgs j rm h as).1.seqPending = h.seqPending := by
  obtain ⟨l, e⟩ := (req_frame j rm h).2 as; rw [e]; rfl
theorem reqArg_seqPending (j rm h a) : (reqArg j rm h a).1.seqPending = h.seqPending := by
  obtain ⟨l, e⟩ := (req_frame j rm h).1 a; rw [e]; rfl
theorem reqArg_req_ne (j rm h a k) (hk : k ≠ j) : (reqArg j rm h a).1.req k = h.req k := by
  obtain ⟨l, e⟩ := (req_frame j rm h).1 a; rw [e]; exact setReq_req_ne _ _ _ _ hk
theorem reqArgs_noself (j rm h as) (hinv : ∀ k, k ∉ h.req k) : ∀ k, k ∉ (reqArgs j rm h as).1.req k :=
  (req_lift j rm (fun h' => ∀ k, k ∉ h'.req k) (fun h' r hp => reqOne_noself j rm h' r hp)).2 h as hinv
theorem reqArg_noself (j rm h a) (hinv : ∀ k, k ∉ h.req k) : ∀ k, k ∉ (reqArg j rm h a).1.req k :=
  (req_lift j rm (fun h' => ∀ k, k ∉ h'.req k) (fun h' r hp => reqOne_noself j rm h' r hp)).1 h a hinv
theorem reqArgs_false_mono (j h as x y) (hy : y ∈ h.req x) : y ∈ (reqArgs j false h as).1.req x :=
  (req_lift j false (fun h' => y ∈ h'.req x) (fun h' r hp => reqOne_false_mono j h' r x y hp)).2 h as hy

theorem flat_congr (h h' : Heap) (hs : h'.seqJobs = h.seqJobs) :
    (∀ a, flat h' a = flat h a) ∧ (∀ as, flats h' as = flats h as) := by
  apply flat.mutual_induct (fun a => flat h' a = flat h a) (fun as => flats h' as = flats h as)
  · simp [flat]
  · intro r; simp [flat]
  · intro q; simp [flat, hs]
  · intro xs ih; simpa [flat] using ih
  · simp [flats]
  · intro a as ih1 ih2; simp [flats, ih1, ih2]

/-- `Sequence._resolve` computes what the documentation says an argument stands for -/
theorem resolve_eq_flat (h : Heap) :
    (∀ a, resolve h a = flat h a) ∧ (∀ as, resolves h as = flats h as) := by
  apply flat.mutual_induct (fun a => resolve h a = flat h a) (fun as => resolves h as = flats h as)
  · simp [resolve, flat]
  · intro r; simp [resolve, flat]
  · intro q
    simp only [resolve, flat]
    cases (h.seqJobs q).getLast? <;> rfl
  · intro xs ih; simpa [resolve, flat] using ih
  · simp [resolves, flats]
  · intro a as ih1 ih2; simp [resolves, flats, ih1, ih2]

theorem flats_map_job (h : Heap) (l : List Nat) : flats h (l.map Arg.job) = l := by
  induction l with
  | nil => simp [flats]
  | cons x xs ih => simp [flats, flat, ih]

/-- the additive `requires` in closed form, both levels at once -/
theorem req_add_eq (j : Nat) :
    (∀ (h : Heap) (a : Arg),
      reqArg j false h a = (h.setReq j (unionNew (h.req j) ((flat h a).filter (· ≠ j))), none)) ∧
    (∀ (h : Heap) (as : List Arg),
      reqArgs j false h as = (h.setReq j (unionNew (h.req j) ((flats h as).filter (· ≠ j))), none)) := by
  apply reqArg.mutual_induct j false
    (fun h a => reqArg j false h a = (h.setReq j (unionNew (h.req j) ((flat h a).filter (· ≠ j))), none))
    (fun h as => reqArgs j false h as = (h.setReq j (unionNew (h.req j) ((flats h as).filter (· ≠ j))), none))
  · intro h; simp [reqArg, flat, unionNew, setReq_self]
  · intro h r; simp only [reqArg, flat]; exact reqOne_false_eq j h r
  · intro h q hq; simp [reqArg, flat, hq, unionNew, setReq_self]
  · intro h q r hq; simp only [reqArg, flat, hq, Option.toList_some]; exact reqOne_false_eq j h r
  · intro h xs ih; simpa only [reqArg, flat] using ih
  · intro h; simp [reqArgs, flats, unionNew, setReq_self]
  · intro h a as h' e heq ih; rw [heq] at ih; cases ih
  · intro h a as h' heq ih1 ih2
    rw [heq] at ih1
    cases ih1
    rw [(flat_congr h (h.setReq j _) rfl).2 as, setReq_req_self] at ih2
    simp only [reqArgs, heq, flats, ih2, List.filter_append, unionNew_append, setReq_setReq]

theorem reqArg_false_req (j : Nat) (h : Heap) (a : Arg) (x : Nat) :
    x ∈ (reqArg j false h a).1.req j ↔ (x ∈ h.req j ∨ (x ∈ flat h a ∧ x ≠ j)) := by
  simp [(req_add_eq j).1 h a, mem_unionNew]

/-- an additive `requires` never raises -/
theorem reqArg_false_snd (j : Nat) (h : Heap) (a : Arg) : reqArg j false h a = ((reqArg j false h a).1, none) := by
  rw [(req_add_eq j).1 h a]

theorem removeAll_append (xs ys : List Nat) : ∀ l : List Nat,
    removeAll l (xs ++ ys) = (removeAll l xs).bind (fun l' => removeAll l' ys) := by
  induction xs with
  | nil => intro l; simp [removeAll]
  | cons x xs ih =>
    intro l
    simp only [List.cons_append, removeAll]
    split
    · exact ih _
    · rfl

theorem removeAll_single (l : List Nat) (r : Nat) :
    removeAll l [r] = if r ∈ l then some (l.erase r) else none := by
  simp [removeAll]

/-- `res` is what removing `xs`, in order, from `h.req j` gives: the shortened list, or `KeyError` (heap then unspecified) -/
def Removes (j : Nat) (h : Heap) (xs : List Nat) (res : Heap × Option Err) : Prop :=
  (∀ l, removeAll (h.req j) xs = some l → res = (h.setReq j l, none)) ∧
  (removeAll (h.req j) xs = none → res.2 = some Err.keyError)

theorem Removes.nil (j : Nat) (h : Heap) : Removes j h [] (h, none) :=
  ⟨fun l hl => by cases hl; rw [setReq_self], by simp [removeAll]⟩

theorem Removes.one (j : Nat) (h : Heap) (r : Nat) : Removes j h [r] (reqOne j true h r) := by
  unfold Removes
  rw [removeAll_single]
  unfold reqOne
  simp only [if_true]
  split
  · refine ⟨?_, by simp⟩
    intro l hl; simp at hl; subst hl; rfl
  · simp

/-- `requires(remove=True)` is the sequential `removeAll` of the jobs the arguments stand for -/
theorem req_remove_aux (j : Nat) :
    (∀ (h : Heap) (a : Arg), Removes j h (flat h a) (reqArg j true h a)) ∧
    (∀ (h : Heap) (as : List Arg), Removes j h (flats h as) (reqArgs j true h as)) := by
  apply reqArg.mutual_induct j true (fun h a => Removes j h (flat h a) (reqArg j true h a))
    (fun h as => Removes j h (flats h as) (reqArgs j true h as))
  · intro h; simp only [reqArg, flat]; exact .nil j h
  · intro h r; simp only [reqArg, flat]; exact .one j h r
  · intro h q hq; simp only [reqArg, flat, hq, Option.toList_none]; exact .nil j h
  · intro h q r hq; simp only [reqArg, flat, hq, Option.toList_some]; exact .one j h r
  · intro h xs ih; simpa only [reqArg, flat] using ih
  · intro h; simp only [reqArgs, flats]; exact .nil j h
  · intro h a as h' e heq ih
    unfold Removes at ih ⊢
    simp only [reqArgs, heq, flats, removeAll_append]
    cases hra : removeAll (h.req j) (flat h a) with
    | some l1 => have := ih.1 l1 hra; rw [heq] at this; simp at this
    | none =>
      have := ih.2 hra; rw [heq] at this
      simpa using this
  · intro h a as h' heq ih1 ih2
    unfold Removes at ih1 ih2 ⊢
    simp only [reqArgs, heq, flats, removeAll_append]
    cases hra : removeAll (h.req j) (flat h a) with
    | none => have := ih1.2 hra; rw [heq] at this; simp at this
    | some l1 =>
      have h1 := ih1.1 l1 hra
      rw [heq] at h1
      have hh : h' = h.setReq j l1 := by simpa using h1
      subst hh
      have hsj : (h.setReq j l1).seqJobs = h.seqJobs := rfl
      rw [(flat_congr h _ hsj).2 as, setReq_req_self] at ih2
      simp only [Option.bind_some]
      refine ⟨?_, ih2.2⟩
      intro l hl
      rw [ih2.1 l hl, setReq_setReq]

theorem chain_frame (h : Heap) (prev : Option Nat) (l : List Nat) : ∃ rq, chain h prev l = { h with req := rq } := by
  induction l generalizing h prev with
  | nil => cases prev <;> exact ⟨_, rfl⟩
  | cons j js ih =>
    cases prev with
    | none => exact ih h _
    | some p =>
      obtain ⟨l, e⟩ := reqOne_frame j false h p
      obtain ⟨rq, e'⟩ := ih (reqOne j false h p).1 (some j)
      exact ⟨rq, by rw [chain, e', e]; rfl⟩

theorem chain_seqJobs (h prev l) : (chain h prev l).seqJobs = h.seqJobs := by
  obtain ⟨_, e⟩ := chain_frame h prev l; rw [e]

theorem chain_mem (h prev l) : (chain h prev l).mem = h.mem := by
  obtain ⟨_, e⟩ := chain_frame h prev l; rw [e]

theorem chain_seqSched (h prev l) : (chain h prev l).seqSched = h.seqSched := by
  obtain ⟨_, e⟩ := chain_frame h prev l; rw [e]

theorem chain_seqPending (h prev l) : (chain h prev l).seqPending = h.seqPending := by
  obtain ⟨_, e⟩ := chain_frame h prev l; rw [e]

theorem chain_req (h : Heap) (prev : Option Nat) (l : List Nat) (x y : Nat) :
    y ∈ (chain h prev l).req x ↔ (y ∈ h.req x ∨ ((y, x) ∈ pairs (prev.toList ++ l) ∧ y ≠ x)) := by
  induction l generalizing h prev with
  | nil => cases prev <;> simp [chain, pairs]
  | cons j js ih =>
    cases prev with
    | none => exact ih h (some j)
    | some p =>
      show y ∈ (chain (reqOne j false h p).1 (some j) js).req x ↔
        _ ∨ (y, x) ∈ (p, j) :: pairs ((some j).toList ++ js) ∧ _
      rw [ih, List.mem_cons, Prod.mk.injEq]
      by_cases hx : x = j
      · subst hx; rw [reqOne_false_req]
        constructor
        · rintro ((h1 | ⟨rfl, h2⟩) | h1)
          · exact Or.inl h1
          · exact Or.inr ⟨Or.inl ⟨rfl, rfl⟩, h2⟩
          · exact Or.inr ⟨Or.inr h1.1, h1.2⟩
        · rintro (h1 | ⟨⟨rfl, _⟩ | h1, h2⟩)
          · exact Or.inl (Or.inl h1)
          · exact Or.inl (Or.inr ⟨rfl, h2⟩)
          · exact Or.inr ⟨h1, h2⟩
      · rw [reqOne_req_ne _ _ _ _ _ hx]
        have : ¬ (y = p ∧ x = j) := fun e => hx e.2
        simp [this]

theorem chain_noself (h prev l) (hinv : ∀ k, k ∉ h.req k) : ∀ k, k ∉ (chain h prev l).req k :=
  fun k hk => ((chain_req h prev l k k).1 hk).elim (hinv k) fun h1 => h1.2 rfl

theorem givePending_frame (h : Heap) (q : Nat) :
    ∃ rq sp, givePending h q = { h with req := rq, seqPending := sp } := by
  unfold givePending
  split
  · exact ⟨_, _, rfl⟩
  · split
    · exact ⟨_, _, rfl⟩
    · rw [(req_add_eq _).1]; exact ⟨_, _, rfl⟩

theorem givePending_seqJobs (h : Heap) (q : Nat) : (givePending h q).seqJobs = h.seqJobs := by
  obtain ⟨_, _, e⟩ := givePending_frame h q; rw [e]

theorem givePending_mem (h : Heap) (q : Nat) : (givePending h q).mem = h.mem := by
  obtain ⟨_, _, e⟩ := givePending_frame h q; rw [e]

theorem givePending_seqSched (h : Heap) (q : Nat) : (givePending h q).seqSched = h.seqSched := by
  obtain ⟨_, _, e⟩ := givePending_frame h q; rw [e]

theorem givePending_req (h : Heap) (q x y : Nat) :
    y ∈ (givePending h q).req x ↔
      (y ∈ h.req x ∨ ((h.seqJobs q).head? = some x ∧ y ∈ h.seqPending q ∧ y ≠ x)) := by
  unfold givePending
  split
  · rename_i hj; simp [hj]
  · rename_i j0 t hj
    split
    · rename_i hp
      have hp' : h.seqPending q = [] := by simpa using hp
      simp [hp']
    · rw [setSeqPending_req]
      by_cases hx : x = j0
      · subst hx
        rw [reqArg_false_req]
        simp only [flat, flats_map_job, hj, List.head?_cons, true_and]
      · rw [reqArg_req_ne _ _ _ _ _ hx]
        have : ¬ (some j0 = some x) := by
          intro e; exact hx (Option.some.inj e).symm
        simp [hj, this]

theorem givePending_noself (h : Heap) (q : Nat) (hinv : ∀ k, k ∉ h.req k) :
    ∀ k, k ∉ (givePending h q).req k := by
  intro k hk
  rcases (givePending_req h q k k).1 hk with h1 | ⟨_, _, h1⟩
  · exact hinv k h1
  · exact h1 rfl

theorem givePending_seqPending (h : Heap) (q k : Nat) :
    (givePending h q).seqPending k = if k = q ∧ h.seqJobs q ≠ [] then [] else h.seqPending k := by
  unfold givePending
  split
  · rename_i hj; simp [hj]
  · rename_i j0 t hj
    split
    · rename_i hp
      have hp' : h.seqPending q = [] := by simpa using hp
      split
      · rename_i hk; rw [hk.1, hp']
      · rfl
    · by_cases hk : k = q
      · subst hk; simp [hj]
      · rw [setSeqPending_seqPending_ne _ _ _ _ hk, reqArg_seqPending, if_neg (fun c => hk c.1)]

theorem interp_newJob (h : Heap) (j : Nat) (r : Arg) (sch : Option Nat) :
    interp h (.newJob j r sch) = (register (reqArg j false (h.setReq j []) r).1 sch [j], none) := by
  simp only [interp]; rw [reqArg_false_snd]

theorem interp_newSched (h : Heap) (s : Nat) (items : List Arg) (r : Arg) (sch : Option Nat) :
    interp h (.newSched s items r sch) =
      (register (reqArg s false ((h.setMem s (unionNew [] (flattenSeq h items))).setReq s []) r).1 sch [s], none) := by
  simp only [interp]; rw [reqArg_false_snd]

theorem interp_append (h : Heap) (q : Nat) (items : List Arg) (hne : items ≠ []) :
    interp h (.append q items) =
      (register (givePending ((chain h (h.seqJobs q).getLast? (flattenSeq h items)).setSeqJobs q
        (h.seqJobs q ++ flattenSeq h items)) q) (h.seqSched q) (flattenSeq h items), none) := by
  have : items.isEmpty = false := by cases items <;> simp_all
  simp [interp, this]

/-- the heap `Sequence(*items, required=r)` leaves before `scheduler=` is looked at: the jobs stored and chained,
    `required=` given to the first job, or kept pending when there is none -/
def seqHeap (h : Heap) (q : Nat) (items : List Arg) (r : Arg) : Heap :=
  let h1 := chain ((h.setSeqJobs q (flattenSeq h items)).setSeqPending q []) none (flattenSeq h items)
  match flattenSeq h items with
  | [] => h1.setSeqPending q (h1.seqPending q ++ resolves h1 [r])
  | j0 :: _ => (reqArg j0 false h1 r).1

theorem interp_newSeq (h : Heap) (q : Nat) (items : List Arg) (r : Arg) (sch : Option Nat) :
    interp h (.newSeq q items r sch) =
      (register ((seqHeap h q items r).setSeqSched q sch) sch (flattenSeq h items), none) := by
  simp only [interp, seqHeap]
  cases flattenSeq h items with
  | nil => rfl
  | cons j0 rest => simp only; rw [reqArg_false_snd]

theorem seqHeap_seqJobs (h : Heap) (q : Nat) (items : List Arg) (r : Arg) :
    (seqHeap h q items r).seqJobs = (h.setSeqJobs q (flattenSeq h items)).seqJobs := by
  have h1 := chain_seqJobs ((h.setSeqJobs q (flattenSeq h items)).setSeqPending q []) none (flattenSeq h items)
  unfold seqHeap
  split
  · exact h1
  · rw [reqArg_seqJobs]; exact h1

theorem seqHeap_mem (h : Heap) (q : Nat) (items : List Arg) (r : Arg) : (seqHeap h q items r).mem = h.mem := by
  have h1 := chain_mem ((h.setSeqJobs q (flattenSeq h items)).setSeqPending q []) none (flattenSeq h items)
  unfold seqHeap
  split
  · exact h1
  · rw [reqArg_mem]; exact h1

theorem seqHeap_req (h : Heap) (q : Nat) (items : List Arg) (r : Arg) (x y : Nat) :
    y ∈ (seqHeap h q items r).req x ↔
      (y ∈ (chain ((h.setSeqJobs q (flattenSeq h items)).setSeqPending q []) none (flattenSeq h items)).req x ∨
        ((flattenSeq h items).head? = some x ∧ y ∈ flat (h.setSeqJobs q (flattenSeq h items)) r ∧ y ≠ x)) := by
  have hsj := chain_seqJobs ((h.setSeqJobs q (flattenSeq h items)).setSeqPending q []) none (flattenSeq h items)
  unfold seqHeap
  split
  · rename_i hjs; simp [hjs]
  · rename_i j0 rest hjs
    by_cases hx : x = j0
    · subst hx
      rw [reqArg_false_req, (flat_congr _ _ hsj).1 r, hjs]
      simp [flat_congr (h.setSeqJobs q (x :: rest)) ((h.setSeqJobs q (x :: rest)).setSeqPending q []) rfl]
    · rw [reqArg_req_ne _ _ _ _ _ hx, hjs]
      have : j0 ≠ x := fun e => hx e.symm
      simp [this]

theorem seqHeap_noself (h : Heap) (q : Nat) (items : List Arg) (r : Arg) (hinv : ∀ k, k ∉ h.req k) :
    ∀ k, k ∉ (seqHeap h q items r).req k := by
  intro k hk
  rcases (seqHeap_req h q items r k k).1 hk with h1 | ⟨_, _, h1⟩
  · exact chain_noself ((h.setSeqJobs q (flattenSeq h items)).setSeqPending q []) none _ hinv k h1
  · exact h1 rfl

theorem seqHeap_seqPending (h : Heap) (q : Nat) (items : List Arg) (r : Arg) :
    (seqHeap h q items r).seqPending q =
      (if flattenSeq h items = [] then flat (h.setSeqJobs q (flattenSeq h items)) r else []) ∧
    ∀ k, k ≠ q → (seqHeap h q items r).seqPending k = h.seqPending k := by
  have hsp := chain_seqPending ((h.setSeqJobs q (flattenSeq h items)).setSeqPending q []) none (flattenSeq h items)
  unfold seqHeap
  split
  · rename_i hjs
    refine ⟨?_, fun k hk => by
      rw [setSeqPending_seqPending_ne _ _ _ _ hk, hsp, setSeqPending_seqPending_ne _ _ _ _ hk]; rfl⟩
    rw [setSeqPending_seqPending_self, hsp, setSeqPending_seqPending_self, (resolve_eq_flat _).2, hjs]
    simp [flats, chain, (flat_congr (h.setSeqJobs q []) ((h.setSeqJobs q []).setSeqPending q []) rfl).1 r]
  · rename_i j0 rest hjs
    rw [reqArg_seqPending, hsp, hjs]
    exact ⟨by simp, fun k hk => by rw [setSeqPending_seqPending_ne _ _ _ _ hk]; rfl⟩

end AJ.Proofs.C19
