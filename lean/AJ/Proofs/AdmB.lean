/-
  C03: admissibility as a static condition on the tree excludes the blocked case of `fair_run_ends_or_blocked`:
  an admissible tree, run by a fair environment while time goes on, always finishes.  The counting argument rests on
  one more invariant of reachable states, `Pending` (ExitB.lean): a run in its main loop has not counted all its regular
  jobs.
-/
import AJ.Proofs.LiveB
namespace AJ.Proofs.AdmB
open AJ.Run AJ.Full AJ.Proofs.CoreA AJ.Proofs.CoreB AJ.Proofs.ProgB AJ.Proofs.BoundB AJ.Proofs.LiveB

/-- a child that may never end if left alone: a `forever` job whose body does not end by itself (`fin j = false`), or a
    `forever` nested scheduler (conservatively) -/
def mayNeverEnd (c : Cfg) (fin : Nat → Bool) (k : Nat) : Bool :=
  c.forever k && (c.isSched k || !fin k)

/-- the transitive closure of `r ∈ c.req k` -/
inductive Requires (c : Cfg) : Nat → Nat → Prop
  | direct {k r : Nat} : r ∈ c.req k → Requires c k r
  | step {k m r : Nat} : Requires c k m → r ∈ c.req m → Requires c k r

/-- the hypotheses of C03's first sentence, as a static condition on the configuration and on the set `fin` of atomic
    jobs whose body ends by itself -/
structure Admissible (c : Cfg) (fin : Nat → Bool) : Prop where
  neverForever : ∀ j, j < c.n → c.isSched j = false → fin j = false → c.forever j = true
  hasRegular : ∀ s, s < c.n → c.isSched s = true → c.timeout s = none → c.children s ≠ [] →
    ∃ k, k ∈ c.children s ∧ c.forever k = false
  /-- through other jobs too: with direct requirements only the theorem is false (`direct_not_enough`): a `forever` job
      that ends by itself but requires a never-ending job never starts, and whoever requires it never starts either -/
  reqEnds : ∀ s k r, s < c.n → c.isSched s = true → k ∈ c.children s → c.forever k = false → Requires c k r →
    mayNeverEnd c fin r = false
  windowRoom : ∀ s, s < c.n → c.isSched s = true → c.window s ≠ 0 →
    ((c.children s).filter fun k => mayNeverEnd c fin k).length < c.window s

theorem Requires.head {c : Cfg} {k m r : Nat} (hm : m ∈ c.req k) (h : Requires c m r) : Requires c k r := by
  induction h with
  | direct hr => exact .step (.direct hm) hr
  | step _ hr ih => exact .step ih hr

theorem Admissible.reqEnds_direct {c : Cfg} {fin : Nat → Bool} (hadm : Admissible c fin) :
    ∀ s k r, s < c.n → c.isSched s = true → k ∈ c.children s → c.forever k = false → r ∈ c.req k →
      mayNeverEnd c fin r = false :=
  fun s k r hsn hss hk hf hr => hadm.reqEnds s k r hsn hss hk hf (.direct hr)

theorem loop_has_ending {c : Cfg} (w : CoreA.WF c) {fin : Nat → Bool} (hadm : Admissible c fin) {st : StB}
    (hA : InvA c st.a) (hB : InvB c st) (hP : InvP c st) (hG : Pending c st)
    (hQ : ∀ j, j < c.n → QuietAt c st j) {s : Nat} (hsn : s < c.n) (hss : c.isSched s = true)
    (hl : st.pcB s = .loop) (hto : c.timeout s = none) :
    ∃ k ∈ c.children s, st.a.ph k = .running ∧ (c.isSched k = true ∨ fin k = true) := by
  apply Classical.byContradiction
  intro hno
  -- otherwise every job of `s` whose body is executing may never end
  have hbad : ∀ k ∈ c.children s, st.a.ph k = .running → mayNeverEnd c fin k = true := by
    intro k hk hr
    cases hks : c.isSched k
    · cases hf : fin k
      · simp [mayNeverEnd, hadm.neverForever k (Run.mem_children.1 hk).1 hks hf, hks, hf]
      · exact absurd ⟨k, hk, hr, Or.inr hf⟩ hno
    · exact absurd ⟨k, hk, hr, Or.inl hks⟩ hno
  have hrx := (quiet_loop (hQ s hsn) hss hl).1
  -- such jobs cannot fill the window: no job is waiting for a slot
  have hnq := none_queued hA hQ hsn hss fun hw => Nat.lt_of_le_of_lt
    (by simp only [runningCount, ← List.countP_eq_length_filter]
        exact List.countP_mono_left fun k hk h => hbad k hk (by simpa using h))
    (hadm.windowRoom s hsn hss hw)
  -- so a job that may end and only requires, directly or not, jobs that may end, has finished and been reported
  have hW := loop_settled w hA hB (hQ s hsn) hss hl
    (G := fun k => mayNeverEnd c fin k = false ∧ ∀ r, Requires c k r → mayNeverEnd c fin r = false)
    (fun k hk r hr => ⟨hk.2 r (.direct hr), fun r' hr' => hk.2 r' (Requires.head hr hr')⟩)
    (fun k hkc hk => ⟨hnq k hkc, fun hr => by rw [hbad k hkc hr] at hk; cases hk.1⟩)
  -- every regular job is one, and there is one: but some regular job has not been reported
  obtain ⟨k1, hk1, _⟩ := loop_undelivered hB hP.notStuck hl hrx
  obtain ⟨k0, hk0, hf0⟩ := hadm.hasRegular s hsn hss hto (List.ne_nil_of_mem hk1)
  obtain ⟨k, hk, hf, hd⟩ := loop_regular_unreported hB hG hl hrx (ExitB.nbFinite_pos hk0 hf0)
  rw [(hW k hk ⟨by simp [mayNeverEnd, hf], fun r hr => hadm.reqEnds s k r hsn hss hk hf hr⟩).2] at hd
  cases hd

/-- something the environment owes an end to — the body of an atomic job that ends by itself or whose cancellation was
    requested, a shutdown handler — or a run waiting in its main loop with a timeout -/
def Owed (c : Cfg) (fin : Nat → Bool) (st : StB) : Prop :=
  (∃ j, j < c.n ∧ c.isSched j = false ∧ st.a.ph j = .running ∧ (fin j = true ∨ st.a.creq j = true)) ∨
  (∃ j, j < c.n ∧ c.isSched j = false ∧ st.hph j = .hactive) ∨
  (∃ s T, s < c.n ∧ st.pcB s = .loop ∧ c.timeout s = some T)

/-- the descent `ProgB.below` for an admissible tree: it never ends on a never-ending body left alone (`m` and its
    bound are not used: `below` carries its own measure) -/
theorem owed_below {c : Cfg} (w : CoreA.WF c) {fin : Nat → Bool} (hadm : Admissible c fin) {st : StB}
    (hA : InvA c st.a) (hB : InvB c st) (hP : InvP c st) (hG : Pending c st)
    (hQ : ∀ j, j < c.n → QuietAt c st j) :
    ∀ m s, c.n - s ≤ m → s < c.n → c.isSched s = true → (st.a.ph s = .running ∨ relayActive st s = true) →
      Owed c fin st := fun _ s _ =>
  below w hB hP hQ (K := fun k => fin k = true ∨ st.a.creq k = true) (fun _ h => Or.inr h)
    (fun s hsn hss hl => by
      cases hto : c.timeout s with
      | some T => exact Or.inl (Or.inr (Or.inr ⟨s, T, hsn, hl, hto⟩))
      | none =>
        obtain ⟨k, hk, hr, hgood⟩ := loop_has_ending w hadm hA hB hP hG hQ hsn hss hl hto
        exact Or.inr ⟨k, hk, hr, fun hks => Or.inl (hgood.resolve_left fun h => by rw [hks] at h; cases h)⟩)
    (fun j hjn hjs hr hK => Or.inl ⟨j, hjn, hjs, hr, hK⟩) (fun j hjn hjs hh => Or.inr (Or.inl ⟨j, hjn, hjs, hh⟩)) s

def TimeDiverges {c : Cfg} (r : InfRun c) : Prop := ∀ T, ∃ i, T ≤ (r.st i).a.now

/-- in this model the passing of time is by positive amounts and only finitely many other events ever occur: time
    goes on in every infinite run -/
theorem time_diverges {c : Cfg} (hwf : c.wf = true) (r : InfRun c) : TimeDiverges r := by
  obtain ⟨N, hN⟩ := eventually_only_ticks hwf r
  intro T
  obtain ⟨d, hd, h⟩ := late_state r hN T
  exact ⟨N + T, by rw [h]; exact Nat.le_trans hd (Nat.le_add_left _ _)⟩

/-- C03: an admissible tree, run by a (weakly) fair environment, finishes: the top-level run ends.  (That time goes
    on need not be assumed: `time_diverges`.) -/
theorem admissible_run_ends' {c : Cfg} (hwf : c.wf = true) (fin : Nat → Bool) (hadm : Admissible c fin) (r : InfRun c)
    (hbegun : ∃ i, (r.st i).pcB 0 ≠ .notBegun) (hb : WeakFairBodies fin r) (hh : FairHandlers r) :
    ∃ i, (r.st i).pcB 0 = .over := by
  obtain ⟨M, hM, hbeg⟩ := exists_tail_begun hwf r hbegun
  apply Classical.byContradiction
  intro hnever
  -- at `M`, from where only time passes, the state is quiet: the descent finds something that is owed an end, but
  -- a fair environment owes nothing there, and a run with a timeout cannot be waiting in its main loop
  have hacc := prefix_accepted r M
  have hB := invB_reach c hwf _ _ hacc
  have w := CoreA.wf_of hwf
  have howed := owed_below w hadm (invA_of_reachB c hwf _ _ hacc) hB (invP_reach c hwf _ _ hacc) (pending_reach c _ _ hacc)
    ((ProgB.quietB_iff c (r.st M)).1 (quiet_of_tick r (hM M (Nat.le_refl _)))) _ 0 (Nat.le_refl _) w.npos w.sched0
    (Or.inl (hB.runPh 0 (hbeg M (Nat.le_refl _)) fun h => hnever ⟨M, h⟩))
  rcases howed with ⟨j, hjn, hjs, hr, hf⟩ | ⟨j, hjn, hjs, hr⟩ | ⟨s, T, hsn, hl, hT⟩
  · exact (nothing_owed_late hb hh hM hjn hjs).1 ⟨hr, hf⟩
  · exact (nothing_owed_late hb hh hM hjn hjs).2 hr
  · exact no_timed_loop_late hwf r hM hT hl

set_option linter.unusedVariables false in
/-- C03: an admissible tree, run by a (weakly) fair environment while time goes on, finishes: the top-level run ends.
    (The run `r` may contain the cancellation of the top-level task from outside, `extCancel`: it then ends because it
    was cancelled, which is still `pcB 0 = .over`; no hypothesis asks for that event, and none forbids it.) -/
theorem admissible_run_ends {c : Cfg} (hwf : c.wf = true) (fin : Nat → Bool) (hadm : Admissible c fin) (r : InfRun c)
    (hbegun : ∃ i, (r.st i).pcB 0 ≠ .notBegun) (hb : WeakFairBodies fin r) (hh : FairHandlers r)
    (ht : TimeDiverges r) :
    ∃ i, (r.st i).pcB 0 = .over :=
  admissible_run_ends' hwf fin hadm r hbegun hb hh

/-! ### non-vacuity: the second run of `LiveB` (job `1` ends by itself, job `2` is `forever` and never ends by itself) -/

theorem ex2_admissible : Admissible ex2Cfg ex2Fin := by
  refine ⟨?_, ?_, ?_, ?_⟩
  · intro j hj hs hf
    rcases ex2_cases hj hs with rfl | rfl
    · cases hf
    · rfl
  · intro s hs hss _ _
    have : s = 0 := by simpa [ex2Cfg] using hss
    subst this
    exact ⟨1, by decide, rfl⟩
  · rintro s k r - - - - (hr | ⟨-, hr⟩) <;> simp [ex2Cfg] at hr
  · intro s _ _ h
    exact absurd rfl h

theorem ex2_timeDiverges : TimeDiverges ex2Run := time_diverges (by decide) ex2Run

/-- the theorem applies to this run -/
example : ∃ i, (ex2Run.st i).pcB 0 = .over :=
  admissible_run_ends (by decide) ex2Fin ex2_admissible ex2Run ⟨1, by decide⟩ ex2Run_weakFair ex2Run_fairHandlers
    ex2_timeDiverges

/-- the hypotheses of `admissible_run_ends` are satisfiable together, with a job that never ends by itself -/
example : ∃ (c : Cfg) (_ : c.wf = true) (fin : Nat → Bool) (_ : Admissible c fin) (r : InfRun c),
    (∃ j, j < c.n ∧ c.isSched j = false ∧ fin j = false) ∧
    (∃ i, (r.st i).pcB 0 ≠ .notBegun) ∧ WeakFairBodies fin r ∧ FairHandlers r ∧ TimeDiverges r :=
  ⟨ex2Cfg, by decide, ex2Fin, ex2_admissible, ex2Run, ⟨2, by decide, rfl, rfl⟩, ⟨1, by decide⟩, ex2Run_weakFair,
    ex2Run_fairHandlers, ex2_timeDiverges⟩

/-- the tree of `ex3Run` (its only job never ends by itself and is not `forever`) is not admissible -/
example : ¬ Admissible exCfg (fun _ => false) := by
  intro h
  have := h.neverForever 1 (by decide) rfl rfl
  cases this

/-! ### why `reqEnds` speaks of indirect requirements

  `AdmissibleDirect` is `Admissible` with `reqEnds` about direct requirements only.  Scheduler `0` with jobs `1`
  (`forever`, never ends by itself), `2` (`forever`, ends by itself, requires `1`), `3` (regular, requires `2`); no
  window, no timeout.  The condition holds: the only regular job, `3`, requires `2`, which ends by itself.  But `2`
  waits for `1`, which never ends: `2` and `3` never start and the run never ends, although the environment is fair and
  time goes on. -/

structure AdmissibleDirect (c : Cfg) (fin : Nat → Bool) : Prop where
  neverForever : ∀ j, j < c.n → c.isSched j = false → fin j = false → c.forever j = true
  hasRegular : ∀ s, s < c.n → c.isSched s = true → c.timeout s = none → c.children s ≠ [] →
    ∃ k, k ∈ c.children s ∧ c.forever k = false
  reqEnds : ∀ s k r, s < c.n → c.isSched s = true → k ∈ c.children s → c.forever k = false → r ∈ c.req k →
    mayNeverEnd c fin r = false
  windowRoom : ∀ s, s < c.n → c.isSched s = true → c.window s ≠ 0 →
    ((c.children s).filter fun k => mayNeverEnd c fin k).length < c.window s

def cexCfg : Cfg :=
  { n := 4, parent := fun _ => 0, isSched := fun j => j == 0,
    req := fun j => if j = 2 then [1] else if j = 3 then [2] else [],
    critical := fun _ => false, forever := fun j => j == 1 || j == 2, window := fun _ => 0, timeout := fun _ => none,
    sdTimeout := fun _ => none, topPure := true }

def cexFin (j : Nat) : Bool := j != 1

def cexEv (i : Nat) : EvB := if i = 0 then .runBegin else if i = 1 then .grant 1 else .tick 1

def cexSt : Nat → StB
  | 0 => StB.init
  | i + 1 => (stepB cexCfg (cexSt i) (cexEv i)).getD (cexSt i)

theorem cexEv_late : ∀ i, 2 ≤ i → cexEv i = .tick 1 := ex3Ev_late  -- `cexEv` is `ex3Ev` by unfolding

theorem cexSt_step (i : Nat) : stepB cexCfg (cexSt i) (cexEv i) = some (cexSt (i + 1)) :=
  lasso_step 2 (fun _ => rfl) (by decide) cexEv_late (by decide) i

def cexRun : InfRun cexCfg := { st := cexSt, ev := cexEv, init := rfl, step := cexSt_step }

theorem cexRun_late : ∀ i, 2 ≤ i → isTick (cexRun.ev i) = true := tick_tail (r := cexRun) cexEv_late

theorem cex_admissibleDirect : AdmissibleDirect cexCfg cexFin := by
  refine ⟨by decide, fun s _ hss _ _ => ?_, ?_, fun s _ _ h => absurd rfl h⟩
  · obtain rfl : s = 0 := by simpa [cexCfg] using hss
    exact ⟨3, by decide, rfl⟩
  · intro s k r _ _ hk hf hr
    obtain ⟨hkn, _, _⟩ := Run.mem_children.1 hk
    exact (by decide : ∀ k, k < cexCfg.n → cexCfg.forever k = false →
      ∀ r ∈ cexCfg.req k, mayNeverEnd cexCfg cexFin r = false) k hkn hf r hr

/-- the statement with direct requirements only is false: all its hypotheses hold of `cexRun`, which never ends -/
theorem direct_not_enough : cexCfg.wf = true ∧ AdmissibleDirect cexCfg cexFin ∧
    (cexRun.st 1).pcB 0 ≠ .notBegun ∧ WeakFairBodies cexFin cexRun ∧ FairHandlers cexRun ∧ TimeDiverges cexRun ∧
    ¬ ∃ i, (cexRun.st i).pcB 0 = .over :=
  ⟨by decide, cex_admissibleDirect, by decide, weakFair_of_late cexRun_late (by decide),
    fairHandlers_of_late cexRun_late (by decide), time_diverges (by decide) cexRun,
    fun ⟨i, hi⟩ => by
      by_cases h : i < 2
      · exact (by decide : ∀ i, i < 2 → (cexRun.st i).pcB 0 ≠ .over) i h hi
      · exact late_of cexRun cexRun_late (fun s => s.pcB 0 ≠ .over) (fun _ _ h => h) (by decide) i
          (by omega) hi⟩

/-- … and `Admissible` rejects that tree: the regular job `3` requires `1` through `2` -/
example : ¬ Admissible cexCfg cexFin := by
  intro h
  have h1 : Requires cexCfg 3 1 := .step (m := 2) (.direct (by decide)) (by decide)
  have := h.reqEnds 0 3 1 (by decide) rfl (by decide) rfl h1
  cases this

end AJ.Proofs.AdmB
