/-
  C10 (d) / C12 in history form, layer A (`grant_no_latency`): `IsRun.holds_or_caused` with the causes `enables` and
  the predicate "the job cannot be granted yet".
-/
import AJ.Proofs.CoreA
namespace AJ.Proofs.LatA
open AJ.Run AJ.Proofs.CoreA

def enables (c : Cfg) (j : Nat) (e : EvA) : Bool :=
  begins (c.parent j) e || (c.req j).any fun r => finishes c r e

def isTickA : EvA → Bool
  | .tick _ => true
  | _ => false

theorem isTickA_iff {e : EvA} : isTickA e = true ↔ ∃ d, e = .tick d :=
  ⟨fun h => match e, h with | .tick d, _ => ⟨d, rfl⟩, fun ⟨_, h⟩ => h ▸ rfl⟩

/-- `j` may still be granted -/
def Alive (c : Cfg) (st : StA) (j : Nat) : Prop :=
  (st.ph j = .queued ∧ st.creq j = false) ∨ (st.ph j = .idle ∧ st.pc (c.parent j) = .loop)

theorem alive_back {c : Cfg} {st st' : StA} {e : EvA} (h : StepA c st e st') (j : Nat)
    (hb : begins (c.parent j) e = false) (ha : Alive c st' j) : Alive c st j := by
  rcases ha with ⟨hq, hc⟩ | ⟨hi, hl⟩
  · -- a task that waits for a slot did so before the step, or was created by the reaction of its scheduler
    match ph_cases h j with
    | .same h1 =>
      -- a request for its cancellation would still stand
      rw [h1] at hq
      refine Or.inl ⟨hq, ?_⟩
      cases h0 : st.creq j with
      | false => rfl
      | true => have := creq_drop h j h0 hc; simp [h1, hq, Ph.isDone] at this
    | .created (was := hi) (parent := hp) .. =>
      rcases hp with hl | ⟨rfl, hp, _⟩ | ⟨rfl, _⟩
      · exact Or.inr ⟨hi, hl⟩
      · simp [begins, hp] at hb
      · simp [begins] at hb
    | .topBegins (ph := h1) .. | .granted (ph := h1) .. => rw [hq] at h1; split at h1 <;> cases h1
    | .bodyEnds (ph := h1) .. | .cancelAcked (ph := h1) .. => rw [hq] at h1; cases h1
    | .finished (r := r) (ph := h1) .. => rw [hq] at h1; cases r <;> cases h1
  · refine Or.inr ⟨?_, ?_⟩
    · -- a task is not taken back
      rcases ph_moves h j with h1 | ⟨_, h1⟩
      · rw [← h1]; exact hi
      · exact absurd hi h1
    · match pcA_cases h (c.parent j) with
      | .same h1 => rw [← h1]; exact hl
      | .begins (ev := h1) .. => rw [hb] at h1; cases h1
      | .leaves (pc := h1) .. | .ends (pc := h1) .. => rw [hl] at h1; cases h1

/-- C10 (d) / C12: no latency at the start of a job: in every accepted history, a job whose scheduler has no window is
    granted with no passing of time since the last event it was waiting for -/
theorem grant_no_latency (c : Cfg) (hwf : c.wf = true) (evs : List EvA) (j : Nat) (st : StA)
    (h : acceptA c StA.init (evs ++ [.grant j]) = some st) (hj : 0 < j) (hw : c.window (c.parent j) = 0) :
    ∃ a e b, evs = a ++ e :: b ∧ enables c j e = true ∧ ∀ x ∈ b, isTickA x = false := by
  have w := wf_of hwf
  obtain ⟨st0, h0, hstep⟩ := (isRunA c).snoc_some.1 h
  obtain ⟨_, hjn, hq0, hc0, _⟩ := (StepA.of_stepA hstep).grant_inv
  have hch : j ∈ c.children (c.parent j) := mem_children.2 ⟨hjn, by omega, rfl⟩
  -- "`j` cannot be granted with all its requirements finished" holds initially and wherever the clock advances (there
  -- the job would have been started, and granted: no window), and only an enabling event can make it fail
  refine ((isRunA c).holds_or_caused isTickA (fun _ e => enables c j e)
      (fun st => ¬ (Alive c st j ∧ ∀ r ∈ c.req j, isDone st r = true)) (s0 := StA.init) ?_ ?_ ?_ h0).elim ?_ ?_
  · intro ⟨ha, _⟩; simp [Alive, StA.init] at ha
  · rintro pre st1 e st2 h1 h2 ht ⟨ha, hdone⟩
    obtain ⟨d, rfl⟩ := isTickA_iff.1 ht
    rcases ha with ⟨hq, hc⟩ | ⟨hi, hl⟩
    · exact ((stepA_iff.1 h2).2 d rfl).1 j (List.mem_range.2 hjn) ⟨hj, hq, hc, by simp [slotFree, hw]⟩
    · obtain ⟨r, hr, hnd⟩ := (eager_at_quiescence c hwf pre st1 st2 d h1 h2 (c.parent j) (w.parentLtN hj hjn)
        (w.parentSched j hj hjn) hl j hch).1 hi
      have := hdone r hr
      rw [isDone, hnd] at this; cases this
  · rintro pre st1 e st2 _ h2 hC hP ⟨ha, hdone⟩
    have hS := StepA.of_stepA h2
    simp only [enables, Bool.or_eq_false_iff, List.any_eq_false] at hC
    refine hP ⟨alive_back hS j hC.1 ha, fun r hr => ?_⟩
    have := HistA.step_isDone hS r
    rw [hdone r hr] at this
    simpa [hC.2 r hr] using this.symm
  · exact fun hP =>
      absurd ⟨Or.inl ⟨hq0, hc0⟩, (invA_reach c hwf evs st0 h0).reqsDone j hj hjn (by simp [hq0])⟩ hP
  · exact fun ⟨a, e, b, _, hsplit, _, he, hb⟩ => ⟨a, e, b, hsplit, he, hb⟩

/- A scheduler with two jobs, `2` requires `1`; time passes while `1` runs, none between the end of `1` and the grant
   of `2`. -/

def exCfg : Cfg :=
  { n := 3, parent := fun _ => 0, isSched := fun j => j == 0, req := fun j => if j == 2 then [1] else [],
    critical := fun _ => false, forever := fun _ => false, window := fun _ => 0,
    timeout := fun _ => none, sdTimeout := fun _ => none, topPure := true }

def exEvs : List EvA := [.runBegin, .grant 1, .tick 3, .bodyEnd 1 true, .waitReturn 0, .react 0 false []]

/-- `grant_no_latency` applies to `exEvs ++ [grant 2]` -/
example : ∃ a e b, exEvs = a ++ e :: b ∧ enables exCfg 2 e = true ∧ ∀ x ∈ b, isTickA x = false := by
  have hacc : (acceptA exCfg StA.init (exEvs ++ [.grant 2])).isSome = true := by decide
  obtain ⟨st, h⟩ := Option.isSome_iff_exists.1 hacc
  exact grant_no_latency exCfg (by decide) exEvs 2 st h (by decide) (by decide)

/-- the split it finds: the last enabling event is the end of job `1`; the tick lies before it -/
example : exEvs = [.runBegin, .grant 1, .tick 3] ++ .bodyEnd 1 true :: [.waitReturn 0, .react 0 false []] ∧
    enables exCfg 2 (.bodyEnd 1 true) = true ∧
    ([EvA.waitReturn 0, .react 0 false []].all fun x => !isTickA x && !enables exCfg 2 x) = true ∧
    ([EvA.runBegin, .grant 1, .tick 3].any isTickA) = true := by
  refine ⟨rfl, ?_, ?_, ?_⟩ <;> decide

/-- with a tick between the last enabling event and the grant the history is not accepted -/
example : acceptA exCfg StA.init (exEvs ++ [.tick 1, .grant 2]) = none ∧
    acceptA exCfg StA.init ([.runBegin, .grant 1, .tick 3, .bodyEnd 1 true, .tick 1]) = none := by
  constructor <;> decide

end AJ.Proofs.LatA

