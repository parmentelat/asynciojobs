/-
  `stats()` adds up: in every reachable state the three classes of `_stats()` partition the jobs of the scheduler
  (a consequence of C14's "is_done implies is_running": a done job is counted once, as done).  Both for the strict
  layer-A model and for the lax one that the C14 tie replays.
-/
import AJ.Model.Stats
import AJ.Proofs.CoreA
namespace AJ.Proofs.StatsA
open AJ.Run AJ.Proofs.CoreA

theorem filter_partition (js : List Nat) (p q : Nat → Bool) (h : ∀ j ∈ js, p j = true → q j = true) :
    (js.filter p).length + ((js.filter q).filter (fun j => !p j)).length + (js.filter (fun j => !q j)).length
      = js.length := by
  have h1 := List.length_eq_countP_add_countP q (l := js)
  have h2 := List.length_eq_countP_add_countP p (l := js.filter q)
  have h3 : List.countP p (js.filter q) = List.countP p js := by
    rw [List.countP_filter]
    exact List.countP_congr fun j hj => by
      cases hp : p j
      · simp
      · simp [h j hj hp]
  simp only [List.countP_eq_length_filter, Bool.not_eq_true, Bool.decide_eq_false] at h1 h2 h3
  omega

/-- `D + R + I = N` in every state reached by the lax model, the one the C14 tie replays -/
theorem stats_add_up_lax (c : Cfg) (hwf : c.wf = true) (evs : List EvA) (st : StA)
    (h : acceptAL c StA.init evs = some st) (s : Nat) :
    (statsOf c st s).1 + (statsOf c st s).2.1 + (statsOf c st s).2.2.1 = (statsOf c st s).2.2.2 := by
  unfold statsOf
  exact filter_partition _ _ _ (fun j _ hd => (AJ.Proofs.LaxA.predicates_chain c hwf evs st h j).1 hd)

/-- … hence in every state reached by the strict layer-A model -/
theorem stats_add_up (c : Cfg) (hwf : c.wf = true) (evs : List EvA) (st : StA)
    (h : acceptA c StA.init evs = some st) (s : Nat) :
    (statsOf c st s).1 + (statsOf c st s).2.1 + (statsOf c st s).2.2.1 = (statsOf c st s).2.2.2 :=
  stats_add_up_lax c hwf evs st (LaxA.acceptA_sub_acceptAL c evs _ _ h) s

theorem filter_length_mono (js : List Nat) (p q : Nat → Bool) (h : ∀ j ∈ js, p j = true → q j = true) :
    (js.filter p).length ≤ (js.filter q).length := by
  rw [← List.countP_eq_length_filter, ← List.countP_eq_length_filter]
  exact List.countP_mono_left h

/-- `D` never decreases and `I` never increases, step by step (no predicate reverts: `step_monotone`) -/
theorem stats_monotone (c : Cfg) (st st' : StA) (e : EvA) (h : stepA c st e = some st') (s : Nat) :
    (statsOf c st s).1 ≤ (statsOf c st' s).1 ∧ (statsOf c st' s).2.2.1 ≤ (statsOf c st s).2.2.1 := by
  unfold statsOf
  refine ⟨filter_length_mono _ _ _ (fun j _ hd => (step_monotone c st st' e h j).2.2.2 hd),
    filter_length_mono _ _ _ (fun j _ hd => ?_)⟩
  have hm := (step_monotone c st st' e h j).2.2.1
  cases hr : isRunning st j
  · rfl
  · have := hm hr; simp [this] at hd

theorem stats_total (c : Cfg) (st : StA) (s : Nat) : (statsOf c st s).2.2.2 = (c.children s).length := rfl

theorem stats_init (c : Cfg) (s : Nat) : statsOf c StA.init s = (0, 0, (c.children s).length, (c.children s).length) := by
  simp [statsOf, StA.init, isDone, isRunning, Ph.isDone]

end AJ.Proofs.StatsA
