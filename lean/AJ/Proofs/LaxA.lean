/-
  The layer-A theorems of C01, C02, C07, C14 hold without the timing assumption (and, except C07, without the window
  discipline): they are proved for the lax model `stepAL` / `acceptAL` of AJ/Model/Lax.lean (namespace `LaxA` in
  `HistA` and `CoreA`; `ResA`).  Here: the strict model accepts no more than the lax one, and removing the windows
  only adds histories.
-/
import AJ.Proofs.StepA
namespace AJ.Proofs.LaxA
open AJ.Run

theorem stepA_sub_stepAL (c : Cfg) (st st' : StA) (e : EvA) (h : stepA c st e = some st') :
    stepAL c st e = some st' :=
  stepAL_iff.2 (.of_stepA h)

theorem acceptA_sub_acceptAL (c : Cfg) (evs : List EvA) (st0 st : StA) (h : acceptA c st0 evs = some st) :
    acceptAL c st0 evs = some st :=
  (isRunA c).mono (isRunAL c) (fun s e s' => stepA_sub_stepAL c s s' e) h

theorem slotFree_noWindow (c : Cfg) (st : StA) (p : Nat) : slotFree c.noWindow st p = true := by
  simp [slotFree, Cfg.noWindow]

theorem beginRun_noWindow (c : Cfg) (st : StA) (s : Nat) : beginRun c.noWindow st s = beginRun c st s := rfl

theorem stepAL_noWindow (c : Cfg) (st st' : StA) (e : EvA) (h : stepAL c st e = some st') :
    stepAL c.noWindow st e = some st' := by
  refine stepAL_iff.2 ?_
  cases stepAL_iff.1 h
  case grantJob hj0 hjn hph hcr _ hs => exact .grantJob hj0 hjn hph hcr (slotFree_noWindow c st _) hs
  case grantEmpty hj0 hjn hph hcr _ hs he => exact .grantEmpty hj0 hjn hph hcr (slotFree_noWindow c st _) hs he
  case grantSched hj0 hjn hph hcr _ hs he => exact .grantSched hj0 hjn hph hcr (slotFree_noWindow c st _) hs he
  all_goals constructor <;> assumption

theorem acceptAL_noWindow (c : Cfg) (evs : List EvA) (st0 st : StA) (h : acceptAL c st0 evs = some st) :
    acceptAL c.noWindow st0 evs = some st :=
  (isRunAL c).mono (isRunAL _) (fun s e s' => stepAL_noWindow c s s' e) h

end AJ.Proofs.LaxA
