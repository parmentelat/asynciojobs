/-
  Layer B as a transition relation: `stepB` decides `StepB`.  Each constructor names the guard of one branch of
  `stepB` and gives its post-state through the model's own helpers; where the branch makes a layer-A step the
  constructor carries it as a `StepA`, so that the refinement is read off the relation (`tick` carries `Calm` and
  `0 < d` instead of a `StepA`: `StepA.tick` has no urgency guard; `StepB.proj` rebuilds it).
-/
import AJ.Model.Full
import AJ.Proofs.StepA
namespace AJ.Full
open AJ.Run

inductive StepB (c : Cfg) (st : StB) : EvB → StB → Prop
  | runBegin {a'} (ha : StepA c st.a .runBegin a') : StepB c st .runBegin (beginB c st 0 a')
  | grantJob {j a'} (ha : StepA c st.a (.grant j) a') (hs : c.isSched j = false) :
      StepB c st (.grant j) { st with a := a' }
  | grantSched {j a'} (ha : StepA c st.a (.grant j) a') (hs : c.isSched j = true) :
      StepB c st (.grant j) (beginB c st j a')
  | bodyEnd {j ok a'} (ha : StepA c st.a (.bodyEnd j ok) a') : StepB c st (.bodyEnd j ok) { st with a := a' }
  | cancelAck {j a'} (ha : StepA c st.a (.cancelAck j) a') : StepB c st (.cancelAck j) { st with a := a' }
  | cancelLoop {s a'} (hsn : s < c.n) (hs : c.isSched s = true) (hph : st.a.ph s = .running)
      (hcr : st.a.creq s = true) (hca : st.carrived s = false) (hpc : st.pcB s = .loop)
      (ha : StepA c st.a (.leave s (liveChildren c st.a s)) a') :
      StepB c st (.cancelArrive s) (exitLoop c { st with carrived := setAt st.carrived s true } s .cancelled a')
  | cancelTidy {s x} (hsn : s < c.n) (hs : c.isSched s = true) (hph : st.a.ph s = .running)
      (hcr : st.a.creq s = true) (hca : st.carrived s = false) (hpc : st.pcB s = .tidy x) :
      StepB c st (.cancelArrive s)
        { st with carrived := setAt st.carrived s true, pcB := setAt st.pcB s (.tidy .cancelled) }
  | cancelShut {s x} (hsn : s < c.n) (hs : c.isSched s = true) (hph : st.a.ph s = .running)
      (hcr : st.a.creq s = true) (hca : st.carrived s = false) (hpc : st.pcB s = .shut x) :
      StepB c st (.cancelArrive s)
        { st with carrived := setAt st.carrived s true, pcB := setAt st.pcB s (.shutTidy .cancelled),
                  bc := setAt st.bc s (.btidy .inline),
                  hcreq := fun k => st.hcreq k || decide (k ∈ activeHandlers c st s) }
  | cancelShutTidy {s x} (hsn : s < c.n) (hs : c.isSched s = true) (hph : st.a.ph s = .running)
      (hcr : st.a.creq s = true) (hca : st.carrived s = false) (hpc : st.pcB s = .shutTidy x) :
      StepB c st (.cancelArrive s)
        { st with carrived := setAt st.carrived s true, pcB := setAt st.pcB s (.shutTidy .cancelled) }
  | waitReturn {s a'} (hpc : st.pcB s = .loop) (hcp : cancelPending st s = false)
      (ha : StepA c st.a (.waitReturn s) a') : StepB c st (.waitReturn s) { st with a := a' }
  | reactCritical {s D a'} (hpc : st.pcB s = .loop) (hrx : st.a.rx s = some D) (hcp : cancelPending st s = false)
      (hcrit : critIn c st.a D = true) (ha : StepA c st.a (.react s true (liveChildren c st.a s)) a') :
      StepB c st (.react s) (exitLoop c st s .critical a')
  | reactSuccess {s D a'} (hpc : st.pcB s = .loop) (hrx : st.a.rx s = some D) (hcp : cancelPending st s = false)
      (hcrit : critIn c st.a D = false)
      (hnb : st.nbDone s + (D.filter fun d => !c.forever d).length = nbFinite c s)
      (ha : StepA c st.a (.react s true (liveChildren c st.a s)) a') :
      StepB c st (.react s)
        (exitLoop c { st with nbDone := setAt st.nbDone s (st.nbDone s + (D.filter fun d => !c.forever d).length) }
          s .success a')
  | reactTimeout {s D a'} (hpc : st.pcB s = .loop) (hrx : st.a.rx s = some D) (hcp : cancelPending st s = false)
      (hcrit : critIn c st.a D = false)
      (hnb : st.nbDone s + (D.filter fun d => !c.forever d).length ≠ nbFinite c s)
      (hexp : expired (st.deadline s) st.a.now = true)
      (ha : StepA c st.a (.react s true (liveChildren c st.a s)) a') :
      StepB c st (.react s)
        (exitLoop c { st with nbDone := setAt st.nbDone s (st.nbDone s + (D.filter fun d => !c.forever d).length) }
          s .timeout a')
  | reactGo {s D a'} (hpc : st.pcB s = .loop) (hrx : st.a.rx s = some D) (hcp : cancelPending st s = false)
      (hcrit : critIn c st.a D = false)
      (hnb : st.nbDone s + (D.filter fun d => !c.forever d).length ≠ nbFinite c s)
      (hexp : expired (st.deadline s) st.a.now = false) (ha : StepA c st.a (.react s false []) a') :
      StepB c st (.react s)
        { st with a := a', nbDone := setAt st.nbDone s (st.nbDone s + (D.filter fun d => !c.forever d).length) }
  | orchFail {s D a'} (hpc : st.pcB s = .loop) (hrx : st.a.rx s = some D) (hcp : cancelPending st s = false)
      (ha : StepA c st.a (.react s true (liveChildren c st.a s)) a') :
      StepB c st (.orchFail s) (exitLoop c st s .crashed a')
  | timeoutFire {s a'} (hpc : st.pcB s = .loop) (hcp : cancelPending st s = false) (hrx : st.a.rx s = none)
      (hD : doneSet c st.a s = []) (hexp : expired (st.deadline s) st.a.now = true)
      (ha : StepA c st.a (.leave s (liveChildren c st.a s)) a') :
      StepB c st (.timeoutFire s) (exitLoop c st s .timeout a')
  | tidyFinish {s pick x r a'} (hpc : st.pcB s = .tidy x) (hlive : liveChildren c st.a s = [])
      (hcp : cancelPending st s = false) (hsd : st.didSd s = true)
      (hv : verdict c st s x pick = some r) (ha : StepA c st.a (.finish s r) a') :
      StepB c st (.tidyReturn s pick)
        { st with a := a', pcB := setAt st.pcB s .over, sdValue := setAt st.sdValue s none }
  | tidyShut {s pick x} (hpc : st.pcB s = .tidy x) (hlive : liveChildren c st.a s = [])
      (hcp : cancelPending st s = false) (hsd : st.didSd s = false) :
      StepB c st (.tidyReturn s pick) { (broadcast c st s .inline) with pcB := setAt st.pcB s (.shut x) }
  | hStepDone {j} (hj0 : 0 < j) (hjn : j < c.n) (hs : c.isSched j = true) (hh : st.hph j = .hactive)
      (hra : relayActive st j = false) (hsd : st.didSd j = true) :
      StepB c st (.hStep j) { st with hph := setAt st.hph j .hdone, sdValue := setAt st.sdValue j none }
  | hStep {j} (hj0 : 0 < j) (hjn : j < c.n) (hs : c.isSched j = true) (hh : st.hph j = .hactive)
      (hra : relayActive st j = false) (hsd : st.didSd j = false) :
      StepB c st (.hStep j) (broadcast c st j .relay)
  | hEnd {j} (hj0 : 0 < j) (hjn : j < c.n) (hs : c.isSched j = false) (hh : st.hph j = .hactive)
      (hcr : st.hcreq j = false) : StepB c st (.hEnd j) { st with hph := setAt st.hph j .hdone }
  | hCancelAck {j} (hj0 : 0 < j) (hjn : j < c.n) (hs : c.isSched j = false) (hh : st.hph j = .hactive)
      (hcr : st.hcreq j = true) :
      StepB c st (.hCancelAck j) { st with hph := setAt st.hph j .hcancelled, hcreq := setAt st.hcreq j false }
  | hCancelWait {s} (hs0 : 0 < s) (hsn : s < c.n) (hs : c.isSched s = true) (hh : st.hph s = .hactive)
      (hcr : st.hcreq s = true) (hca : st.hcarrived s = false) (hbc : st.bc s = .bwait .relay) :
      StepB c st (.hCancelArrive s)
        { st with hcarrived := setAt st.hcarrived s true, bc := setAt st.bc s (.btidy .relay),
                  hcreq := fun k => st.hcreq k || decide (k ∈ activeHandlers c st s) }
  | hCancelTidy {s} (hs0 : 0 < s) (hsn : s < c.n) (hs : c.isSched s = true) (hh : st.hph s = .hactive)
      (hcr : st.hcreq s = true) (hca : st.hcarrived s = false) (hbc : st.bc s = .btidy .relay) :
      StepB c st (.hCancelArrive s) { st with hcarrived := setAt st.hcarrived s true }
  | sdWaitInline {s pick x r a'} (hact : activeHandlers c st s = []) (hcp : cancelPending st s = false)
      (hhp : hcancelPending st s = false) (hbc : st.bc s = .bwait .inline) (hpc : st.pcB s = .shut x)
      (hv : verdict c st s x pick = some r) (ha : StepA c st.a (.finish s r) a') :
      StepB c st (.sdWaitReturn s pick)
        { st with a := a', pcB := setAt st.pcB s .over, bc := setAt st.bc s .bover,
                  sdValue := setAt st.sdValue s (some true) }
  | sdWaitRelay {s pick} (hact : activeHandlers c st s = []) (hcp : cancelPending st s = false)
      (hhp : hcancelPending st s = false) (hbc : st.bc s = .bwait .relay) :
      StepB c st (.sdWaitReturn s pick)
        { st with bc := setAt st.bc s .bover, sdValue := setAt st.sdValue s (some true), hph := setAt st.hph s .hdone }
  | sdTimeoutInline {s x} (hbc : st.bc s = .bwait .inline) (hact : activeHandlers c st s ≠ [])
      (hexp : expired (st.hdeadline s) st.a.now = true) (hcp : cancelPending st s = false)
      (hhp : hcancelPending st s = false) (hpc : st.pcB s = .shut x) :
      StepB c st (.sdTimeoutFire s)
        { st with bc := setAt st.bc s (.btidy .inline), pcB := setAt st.pcB s (.shutTidy x),
                  hcreq := fun k => st.hcreq k || decide (k ∈ activeHandlers c st s) }
  | sdTimeoutOther {s w} (hbc : st.bc s = .bwait w) (hact : activeHandlers c st s ≠ [])
      (hexp : expired (st.hdeadline s) st.a.now = true) (hcp : cancelPending st s = false)
      (hhp : hcancelPending st s = false) (hno : w = .relay ∨ ∀ x, st.pcB s ≠ .shut x) :
      StepB c st (.sdTimeoutFire s)
        { st with bc := setAt st.bc s (.btidy w),
                  hcreq := fun k => st.hcreq k || decide (k ∈ activeHandlers c st s) }
  | sdTidyInline {s pick x r a'} (hact : activeHandlers c st s = []) (hcp : cancelPending st s = false)
      (hhp : hcancelPending st s = false) (hbc : st.bc s = .btidy .inline) (hpc : st.pcB s = .shutTidy x)
      (hv : verdict c st s x pick = some r) (ha : StepA c st.a (.finish s r) a') :
      StepB c st (.sdTidyReturn s pick)
        { st with a := a', pcB := setAt st.pcB s .over, bc := setAt st.bc s .bover,
                  sdValue := setAt st.sdValue s (some false) }
  | sdTidyRelay {s pick} (hact : activeHandlers c st s = []) (hcp : cancelPending st s = false)
      (hhp : hcancelPending st s = false) (hbc : st.bc s = .btidy .relay) :
      StepB c st (.sdTidyReturn s pick)
        { st with bc := setAt st.bc s .bover, sdValue := setAt st.sdValue s (some false),
                  hph := setAt st.hph s (if st.hcarrived s then .hcancelled else .hdone),
                  hcreq := setAt st.hcreq s false }
  | tick {d} (hq : quietB c st = true)
      (hdl : ∀ s ∈ List.range c.n, st.pcB s = .loop → within (st.deadline s) st.a.now d = true)
      (hsd : ∀ s ∈ List.range c.n, (st.bc s).isWait = true → within (st.hdeadline s) st.a.now d = true)
      (hd : 0 < d) (hcalm : Calm c st.a) :
      StepB c st (.tick d) { st with a := { st.a with now := st.a.now + d } }
  | extCancel {a'} (ha : StepA c st.a .extCancel a') : StepB c st .extCancel { st with a := a' }

theorem mem_activeHandlers {c : Cfg} {st : StB} {s k : Nat} :
    k ∈ activeHandlers c st s ↔ k ∈ c.children s ∧ st.hph k = .hactive := by
  simp [activeHandlers, List.mem_filter]

theorem activeHandlers_nil {c : Cfg} {st : StB} {s : Nat} (h : activeHandlers c st s = []) :
    ∀ k ∈ c.children s, st.hph k ≠ .hactive :=
  fun _ hk hh => List.not_mem_nil (h ▸ mem_activeHandlers.2 ⟨hk, hh⟩)

theorem mem_liveChildren {c : Cfg} {a : StA} {s k : Nat} :
    k ∈ liveChildren c a s ↔ k ∈ c.children s ∧ (a.ph k).live = true := by
  simp [liveChildren, List.mem_filter]

theorem liveChildren_nil {c : Cfg} {a : StA} {s : Nat} (h : liveChildren c a s = []) :
    ∀ k ∈ c.children s, (a.ph k).live = false :=
  fun _ hk => Bool.eq_false_iff.2 fun hl => List.not_mem_nil (h ▸ mem_liveChildren.2 ⟨hk, hl⟩)

theorem cancelPending_iff {st : StB} {s : Nat} :
    cancelPending st s = true ↔ st.a.creq s = true ∧ st.carrived s = false := by simp [cancelPending]

theorem hcancelPending_iff {st : StB} {s : Nat} :
    hcancelPending st s = true ↔ st.hcreq s = true ∧ st.hcarrived s = false := by simp [hcancelPending]

theorem relayActive_iff {st : StB} {s : Nat} :
    relayActive st s = true ↔ st.bc s = .bwait .relay ∨ st.bc s = .btidy .relay := by simp [relayActive]

theorem critIn_iff {c : Cfg} {a : StA} {D : List Nat} :
    critIn c a D = true ↔ ∃ d ∈ D, c.critical d = true ∧ ∃ ex, a.ph d = .done (.exc ex) := by
  simp only [critIn, List.any_eq_true, Bool.and_eq_true]
  refine exists_congr fun d => and_congr_right fun _ => and_congr_right fun _ => ?_
  split <;> simp_all

theorem critIn_false {c : Cfg} {a : StA} {D : List Nat} (h : critIn c a D = false) :
    ∀ d ∈ D, c.critical d = true → ∀ ex, a.ph d ≠ .done (.exc ex) :=
  fun d hd hc ex he => Bool.false_ne_true (h.symm.trans (critIn_iff.2 ⟨d, hd, hc, ex, he⟩))

theorem beginB_eq (c : Cfg) (st : StB) (s : Nat) (a' : StA) :
    beginB c st s a' =
      { st with a := a', pcB := setAt st.pcB s (if (c.children s).isEmpty then .over else .loop),
                tbegin := setAt st.tbegin s st.a.now,
                nbDone := setAt st.nbDone s (if (c.children s).isEmpty then st.nbDone s else 0),
                deadline := setAt st.deadline s (if (c.children s).isEmpty then st.deadline s
                                                 else (c.timeout s).map (st.a.now + ·)) } := by
  unfold beginB; split <;> simp [*, setAt_eq_self]

theorem beginB_loop {c : Cfg} {st : StB} {s0 s : Nat} {a' : StA} (hl : (beginB c st s0 a').pcB s = .loop) :
    s ≠ s0 ∧ st.pcB s = .loop ∨ s = s0 ∧ c.children s ≠ [] := by
  rw [beginB_eq] at hl
  by_cases hs : s = s0
  · subst hs; exact .inr ⟨rfl, fun he => by simp [he] at hl⟩
  · exact .inl ⟨hs, (setAt_of_ne _ _ hs).symm.trans hl⟩

theorem beginB_of_empty {c : Cfg} {st : StB} {s : Nat} {a' : StA} (he : c.children s = []) :
    beginB c st s a' = { st with a := a', pcB := setAt st.pcB s .over, tbegin := setAt st.tbegin s st.a.now } := by
  simp [beginB, he]

theorem beginB_of_ne {c : Cfg} {st : StB} {s : Nat} {a' : StA} (he : c.children s ≠ []) :
    beginB c st s a' =
      { st with a := a', pcB := setAt st.pcB s .loop, nbDone := setAt st.nbDone s 0,
                tbegin := setAt st.tbegin s st.a.now,
                deadline := setAt st.deadline s ((c.timeout s).map (st.a.now + ·)) } := by
  simp [beginB, he]

@[simp] theorem beginB_a (c : Cfg) (st : StB) (s : Nat) (a' : StA) : (beginB c st s a').a = a' := by
  unfold beginB; split <;> rfl

theorem finishRun_eq_some {c : Cfg} {st st' : StB} {s : Nat} {x : Exit} {pick : Nat} :
    finishRun c st s x pick = some st' ↔
      ∃ r a', verdict c st s x pick = some r ∧ stepA c st.a (.finish s r) = some a' ∧
        { st with a := a', pcB := setAt st.pcB s .over } = st' := by
  unfold finishRun
  split
  · next hv => simp [hv]
  · next r hv =>
    split
    · next ha => simp [hv, ha]
    · next a' ha => simp [hv, ha]

theorem StepB.of_stepB {c : Cfg} {st st' : StB} {e : EvB} (h : stepB c st e = some st') : StepB c st e st' := by
  cases e <;> simp only [stepB, Option.ite_none_right_eq_some, Option.some.injEq] at h
  case runBegin =>
    split at h <;> cases h
    next ha => exact .runBegin (.of_stepA ha)
  case grant j =>
    split at h
    · cases h
    next a' ha =>
      split at h <;> cases h
      next hs => exact .grantSched (.of_stepA ha) hs
      next hs => exact .grantJob (.of_stepA ha) (by simpa using hs)
  case bodyEnd j ok =>
    split at h <;> cases h
    next ha => exact .bodyEnd (.of_stepA ha)
  case cancelAck j =>
    split at h <;> cases h
    next ha => exact .cancelAck (.of_stepA ha)
  case cancelArrive s =>
    obtain ⟨⟨h1, h2, h3, h4, h5⟩, h⟩ := h
    split at h
    next hpc =>
      split at h <;> cases h
      next ha => exact .cancelLoop h1 h2 h3 h4 h5 hpc (.of_stepA ha)
    next hpc => cases h; exact .cancelTidy h1 h2 h3 h4 h5 hpc
    next hpc => cases h; exact .cancelShut h1 h2 h3 h4 h5 hpc
    next hpc => cases h; exact .cancelShutTidy h1 h2 h3 h4 h5 hpc
    next => cases h
  case waitReturn s =>
    obtain ⟨hg, h⟩ := h
    split at h <;> cases h
    next ha => exact .waitReturn hg.1 hg.2 (.of_stepA ha)
  case react s =>
    split at h
    next D hpc hrx =>
      simp only [Option.ite_none_left_eq_some, Bool.not_eq_true] at h
      obtain ⟨hcp, h⟩ := h
      by_cases hcrit : critIn c st.a D = true
      · rw [if_pos hcrit] at h
        split at h <;> cases h
        next ha => exact .reactCritical hpc hrx hcp hcrit (.of_stepA ha)
      · rw [if_neg hcrit] at h
        have hcrit : critIn c st.a D = false := by simpa using hcrit
        split at h
        next hnb =>
          split at h <;> cases h
          next ha => exact .reactSuccess hpc hrx hcp hcrit hnb (.of_stepA ha)
        next hnb =>
          split at h
          next hexp =>
            split at h <;> cases h
            next ha => exact .reactTimeout hpc hrx hcp hcrit hnb hexp (.of_stepA ha)
          next hexp =>
            split at h <;> cases h
            next ha => exact .reactGo hpc hrx hcp hcrit hnb (by simpa using hexp) (.of_stepA ha)
    next => cases h
  case orchFail s =>
    split at h
    next D hpc hrx =>
      simp only [Option.ite_none_left_eq_some, Bool.not_eq_true] at h
      obtain ⟨hcp, h⟩ := h
      split at h <;> cases h
      next ha => exact .orchFail hpc hrx hcp (.of_stepA ha)
    next => cases h
  case timeoutFire s =>
    obtain ⟨hg, h⟩ := h
    split at h <;> cases h
    next ha => exact .timeoutFire hg.1 hg.2.1 hg.2.2.1 hg.2.2.2.1 hg.2.2.2.2 (.of_stepA ha)
  case tidyReturn s pick =>
    split at h
    next x hpc =>
      simp only [Option.ite_none_right_eq_some] at h
      obtain ⟨hg, h⟩ := h
      split at h
      next hsd =>
        obtain ⟨r, a', hv, ha, rfl⟩ := finishRun_eq_some.1 h
        exact .tidyFinish hpc hg.1 hg.2 hsd hv (.of_stepA ha)
      next hsd => cases h; exact .tidyShut hpc hg.1 hg.2 (by simpa using hsd)
    next => cases h
  case hStep j =>
    obtain ⟨⟨h1, h2, h3, h4, h5⟩, h⟩ := h
    split at h <;> cases h
    next hsd => exact .hStepDone h1 h2 h3 h4 h5 hsd
    next hsd => exact .hStep h1 h2 h3 h4 h5 (by simpa using hsd)
  case hEnd j =>
    obtain ⟨hg, rfl⟩ := h
    exact .hEnd hg.1 hg.2.1 hg.2.2.1 hg.2.2.2.1 hg.2.2.2.2
  case hCancelAck j =>
    obtain ⟨hg, rfl⟩ := h
    exact .hCancelAck hg.1 hg.2.1 hg.2.2.1 hg.2.2.2.1 hg.2.2.2.2
  case hCancelArrive s =>
    obtain ⟨⟨h1, h2, h3, h4, h5, h6⟩, h⟩ := h
    split at h <;> cases h
    next hbc => exact .hCancelWait h1 h2 h3 h4 h5 h6 hbc
    next hbc => exact .hCancelTidy h1 h2 h3 h4 h5 h6 hbc
  case sdWaitReturn s pick =>
    obtain ⟨hg, h⟩ := h
    split at h
    next hbc =>
      split at h
      next x hpc =>
        obtain ⟨r, a', hv, ha, rfl⟩ := finishRun_eq_some.1 h
        exact .sdWaitInline hg.1 hg.2.1 hg.2.2 hbc hpc hv (.of_stepA ha)
      next => cases h
    next hbc => cases h; exact .sdWaitRelay hg.1 hg.2.1 hg.2.2 hbc
    next => cases h
  case sdTimeoutFire s =>
    obtain ⟨⟨h1, h2, h3, h4, h5⟩, rfl⟩ := h
    rcases hbc : st.bc s with _ | w | w | _ <;> simp only [hbc, Bc.isWait, Bool.false_eq_true] at h1
    cases w <;> simp only [Bc.who]
    · split
      next x hpc => exact .sdTimeoutInline hbc h2 h3 h4 h5 hpc
      next hno => exact .sdTimeoutOther hbc h2 h3 h4 h5 (Or.inr fun x hx => hno x rfl hx)
    · exact .sdTimeoutOther hbc h2 h3 h4 h5 (Or.inl rfl)
  case sdTidyReturn s pick =>
    obtain ⟨hg, h⟩ := h
    split at h
    next hbc =>
      split at h
      next x hpc =>
        obtain ⟨r, a', hv, ha, rfl⟩ := finishRun_eq_some.1 h
        exact .sdTidyInline hg.1 hg.2.1 hg.2.2 hbc hpc hv (.of_stepA ha)
      next => cases h
    next hbc => cases h; exact .sdTidyRelay hg.1 hg.2.1 hg.2.2 hbc
    next => cases h
  case tick d =>
    obtain ⟨hg, h⟩ := h
    split at h <;> cases h
    next ha =>
      obtain ⟨hA, hcalm⟩ := stepA_iff.1 ha
      cases hA
      next hd => exact .tick hg.1 hg.2.1 hg.2.2 hd (hcalm d rfl)
  case extCancel =>
    split at h <;> cases h
    next ha => exact .extCancel (.of_stepA ha)

theorem StepB.to_stepB {c : Cfg} {st st' : StB} {e : EvB} (h : StepB c st e st') : stepB c st e = some st' := by
  cases h
  case tidyFinish hpc hlive hcp hsd hv ha =>
    simp only [stepB, hpc, hlive, hcp, hsd]; exact finishRun_eq_some.2 ⟨_, _, hv, ha.to_stepA nofun, rfl⟩
  case sdWaitInline hact hcp hhp hbc hpc hv ha =>
    simp only [stepB, hact, hcp, hhp, hbc, hpc]; exact finishRun_eq_some.2 ⟨_, _, hv, ha.to_stepA nofun, rfl⟩
  case sdTidyInline hact hcp hhp hbc hpc hv ha =>
    simp only [stepB, hact, hcp, hhp, hbc, hpc]; exact finishRun_eq_some.2 ⟨_, _, hv, ha.to_stepA nofun, rfl⟩
  case sdTimeoutInline hbc hact hexp hcp hhp hpc => simp [stepB, hbc, hact, hexp, hcp, hhp, hpc, Bc.isWait, Bc.who]
  case sdTimeoutOther s w hbc hact hexp hcp hhp hno =>
    simp only [stepB, hbc, Bc.isWait, Bc.who]
    rw [if_pos ⟨trivial, hact, hexp, hcp, hhp⟩]
    split
    · next x hx =>
      rcases hno with hno | hno
      · cases hno
      · exact absurd hx (hno x)
    · rfl
  case tick d hq hdl hsd hd hcalm =>
    simp only [stepB, stepA_iff.2 ⟨StepA.tick hd, fun _ _ => hcalm⟩, hq]
    rw [if_pos ⟨trivial, hdl, hsd⟩]
  all_goals try (have hA := StepA.to_stepA ‹StepA _ _ _ _› (by intro d hd; cases hd))
  all_goals simp [stepB, *]

theorem stepB_iff {c : Cfg} {st st' : StB} {e : EvB} : stepB c st e = some st' ↔ StepB c st e st' :=
  ⟨.of_stepB, StepB.to_stepB⟩

theorem isRunB (c : Cfg) : IsRun (stepB c) (acceptB c) :=
  ⟨fun _ => rfl, fun s e es => by simp only [acceptB]; cases stepB c s e <;> rfl⟩

end AJ.Full
