/-
  `addNew` / `unionNew` (Model/Graph.lean): lists used as sets, in insertion order.
-/
import AJ.Model.Graph
namespace AJ

theorem mem_addNew (l : List Nat) (x y : Nat) : y ∈ addNew l x ↔ y ∈ l ∨ y = x := by
  unfold addNew
  split
  · next hx => exact ⟨Or.inl, fun h => h.elim id (· ▸ hx)⟩
  · simp

theorem nodup_addNew (l : List Nat) (x : Nat) (h : l.Nodup) : (addNew l x).Nodup := by
  unfold addNew
  split
  · exact h
  · next hx => exact (List.perm_append_singleton x l).nodup_iff.2 (List.nodup_cons.2 ⟨hx, h⟩)

theorem prefix_addNew (l : List Nat) (x : Nat) : l <+: addNew l x := by
  unfold addNew
  split
  · exact List.prefix_refl l
  · exact List.prefix_append l [x]

theorem unionNew_cons (l : List Nat) (x : Nat) (xs : List Nat) :
    unionNew l (x :: xs) = unionNew (addNew l x) xs := rfl

theorem mem_unionNew (l xs : List Nat) (y : Nat) : y ∈ unionNew l xs ↔ y ∈ l ∨ y ∈ xs := by
  induction xs generalizing l with
  | nil => simp [unionNew]
  | cons x xs ih =>
    rw [unionNew_cons, ih, mem_addNew, List.mem_cons, or_assoc]

theorem nodup_unionNew (l xs : List Nat) (h : l.Nodup) : (unionNew l xs).Nodup := by
  induction xs generalizing l with
  | nil => exact h
  | cons x xs ih => exact ih _ (nodup_addNew l x h)

/-- the union only appends: when the length has not changed, nothing has -/
theorem prefix_unionNew (l xs : List Nat) : l <+: unionNew l xs := by
  induction xs generalizing l with
  | nil => exact List.prefix_refl l
  | cons x xs ih => exact (prefix_addNew l x).trans (ih _)

theorem unionNew_append (l xs ys : List Nat) : unionNew l (xs ++ ys) = unionNew (unionNew l xs) ys := by
  simp [unionNew, List.foldl_append]

end AJ
