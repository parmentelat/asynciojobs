/-
  `topo` (`topological_order`): one induction on the fuel of `topoLoop` gives the outcome together with any
  invariant of the marking step (`topo_run`); the order, duplicate and membership properties are such invariants.
  An order is found iff the graph is acyclic: a list in that order has no cycle (`reach_before`), and a sweep that
  marks nothing leaves unmarked members without a minimal element (`stuck_not_acyclic`).
-/
import AJ.Proofs.Tree
import Batteries.Data.List.Perm
namespace AJ.Proofs.C15

def step (t : T) (ext : List Nat) (acc : List Nat) (j : Nat) : List Nat :=
  if j ∈ acc then acc else if canMark t ext acc j then acc ++ [j] else acc

theorem sweep_nil (t : T) (ext acc : List Nat) : sweep t ext [] acc = acc := rfl

theorem sweep_cons (t : T) (ext : List Nat) (j : Nat) (todo acc : List Nat) :
    sweep t ext (j :: todo) acc = sweep t ext todo (step t ext acc j) := rfl

theorem step_cases (t : T) (ext acc : List Nat) (j : Nat) :
    (step t ext acc j = acc ∧ (j ∈ acc ∨ canMark t ext acc j = false)) ∨
    (step t ext acc j = acc ++ [j] ∧ j ∉ acc ∧ canMark t ext acc j = true) := by
  unfold step
  split
  · exact .inl ⟨rfl, .inl ‹_›⟩
  · split
    · exact .inr ⟨rfl, ‹_›, ‹_›⟩
    · exact .inl ⟨rfl, .inr (Bool.eq_false_iff.2 ‹_›)⟩

theorem sweep_inv (t : T) (ext : List Nat) (P : List Nat → Prop) (todo : List Nat)
    (hstep : ∀ acc j, j ∈ todo → P acc → j ∉ acc → canMark t ext acc j = true → P (acc ++ [j])) :
    ∀ acc, P acc → P (sweep t ext todo acc) := by
  induction todo with
  | nil => intro acc h; exact h
  | cons j todo ih =>
    intro acc h
    rw [sweep_cons]
    refine ih (fun acc j hj => hstep acc j (List.mem_cons_of_mem _ hj)) _ ?_
    rcases step_cases t ext acc j with ⟨e, _⟩ | ⟨e, h1, h2⟩ <;> rw [e]
    · exact h
    · exact hstep acc j List.mem_cons_self h h1 h2

theorem sweep_length_le (t : T) (ext todo acc : List Nat) : acc.length ≤ (sweep t ext todo acc).length :=
  sweep_inv t ext (fun a => acc.length ≤ a.length) todo
    (fun a j _ h _ _ => by rw [List.length_append]; exact Nat.le_succ_of_le h) acc (Nat.le_refl _)

theorem sweep_fix (t : T) (ext todo : List Nat) :
    ∀ acc, (sweep t ext todo acc).length = acc.length →
      ∀ j ∈ todo, j ∈ acc ∨ canMark t ext acc j = false := by
  induction todo with
  | nil => intro acc _ j hj; cases hj
  | cons j todo ih =>
    intro acc hlen
    rw [sweep_cons] at hlen
    have h2 := sweep_length_le t ext todo (step t ext acc j)
    rcases step_cases t ext acc j with ⟨e, hj⟩ | ⟨e, _⟩ <;> rw [e] at hlen h2
    · intro k hk
      rcases List.mem_cons.mp hk with rfl | hk
      · exact hj
      · exact ih acc hlen k hk
    · simp at h2; omega

/-- the one induction on the fuel of `topoLoop`: with fuel for every member still to mark, the loop either
    returns a list that covers the members, or raises `cycle` from a state `m` that misses a member and on
    which a sweep marks nothing; an invariant `P` of the marking step holds of `l`, resp. `m` -/
theorem topoLoop_run (t : T) (s : Nat) (ext : List Nat) (P : List Nat → Prop)
    (hstep : ∀ acc j, j ∈ t.mem s → P acc → j ∉ acc → canMark t ext acc j = true → P (acc ++ [j])) :
    ∀ fuel marked r, topoLoop t s ext fuel marked = r → P marked → 1 ≤ fuel →
      (t.mem s).length + 1 ≤ fuel + marked.length →
      (∃ l, r = .ok l ∧ P l ∧ (t.mem s).length ≤ l.length) ∨
      (r = .error .cycle ∧ ∃ m, P m ∧ m.length < (t.mem s).length ∧
        (sweep t ext (t.mem s) m).length = m.length) := by
  intro fuel
  induction fuel with
  | zero => intro marked _ _ _ h; omega
  | succ fuel ih =>
    intro marked r hr hP _ hlen
    have hP' := sweep_inv t ext P (t.mem s) hstep marked hP
    have hmono := sweep_length_le t ext (t.mem s) marked
    rw [topoLoop] at hr
    split at hr
    · exact Or.inl ⟨_, hr.symm, hP', by assumption⟩
    · split at hr
      · exact Or.inr ⟨hr.symm, marked, hP, by omega, by assumption⟩
      · exact ih _ r hr hP' (by omega) (by omega)

/-- the outcome of `topo`, with an invariant of the marking step: the fuel `|mem s| + 1` is enough -/
theorem topo_run (t : T) (s : Nat) (ext : List Nat) (P : List Nat → Prop) (h0 : P [])
    (hstep : ∀ acc j, j ∈ t.mem s → P acc → j ∉ acc → canMark t ext acc j = true → P (acc ++ [j])) :
    (∃ l, topo t s ext = .ok l ∧ P l ∧ (t.mem s).length ≤ l.length) ∨
    (topo t s ext = .error .cycle ∧ ∃ m, P m ∧ m.length < (t.mem s).length ∧
      (sweep t ext (t.mem s) m).length = m.length) :=
  topoLoop_run t s ext P hstep _ [] _ rfl h0 (by omega) (by simp)

theorem topo_inv (t : T) (s : Nat) (ext : List Nat) (P : List Nat → Prop) (h0 : P [])
    (hstep : ∀ acc j, j ∈ t.mem s → P acc → j ∉ acc → canMark t ext acc j = true → P (acc ++ [j]))
    (l : List Nat) (h : topo t s ext = .ok l) : P l ∧ (t.mem s).length ≤ l.length := by
  rcases topo_run t s ext P h0 hstep with ⟨l', h', hP⟩ | ⟨h', _⟩ <;> rw [h] at h' <;> cases h'
  exact hP

theorem topo_cases (t : T) (s : Nat) (ext : List Nat) :
    (∃ l, topo t s ext = .ok l) ∨ (topo t s ext = .error .cycle ∧ ∃ m, m.length < (t.mem s).length ∧
      (sweep t ext (t.mem s) m).length = m.length) := by
  rcases topo_run t s ext (fun _ => True) trivial (fun _ _ _ _ _ _ => trivial) with ⟨l, h, _⟩ | ⟨h, m, _, hm⟩
  · exact Or.inl ⟨l, h⟩
  · exact Or.inr ⟨h, m, hm⟩

theorem canMark_nil_iff (t : T) (acc : List Nat) (j : Nat) :
    canMark t [] acc j = true ↔ ∀ r ∈ t.req j, r ∈ acc := by
  simp [canMark]

theorem topo_subset {t : T} {s : Nat} {ext l : List Nat} (h : topo t s ext = .ok l) :
    ∀ x ∈ l, x ∈ t.mem s := by
  refine (topo_inv t s ext (fun acc => ∀ x ∈ acc, x ∈ t.mem s) (fun x hx => by cases hx) ?_ l h).1
  intro acc j hj hP _ _ x hx
  rcases List.mem_append.mp hx with hx | hx
  · exact hP x hx
  · exact List.mem_singleton.1 hx ▸ hj

theorem topo_nodup {t : T} {s : Nat} {ext l : List Nat} (h : topo t s ext = .ok l) : l.Nodup :=
  (topo_inv t s ext (fun acc => acc.Nodup) List.nodup_nil (fun acc j _ hP hj _ =>
    (List.perm_append_singleton j acc).nodup_iff.2 (List.nodup_cons.2 ⟨hj, hP⟩)) l h).1

/-- each job after all of its requirements -/
theorem topo_order (t : T) (s : Nat) (l : List Nat) (h : topo t s = .ok l) :
    ∀ a x b, l = a ++ x :: b → ∀ y ∈ t.req x, y ∈ a := by
  refine (topo_inv t s [] (fun acc => ∀ a x b, acc = a ++ x :: b → ∀ y ∈ t.req x, y ∈ a)
    (fun a x b hab => by simp at hab) ?_ l h).1
  · intro acc j _ hP _ hc a x b hab y hy
    rcases List.eq_nil_or_concat b with rfl | ⟨b', c, rfl⟩
    · obtain ⟨rfl, rfl⟩ := List.append_singleton_inj.1 hab
      exact (canMark_nil_iff ..).1 hc y hy
    · rw [List.concat_eq_append, ← List.cons_append, ← List.append_assoc] at hab
      exact hP a x b' (List.append_singleton_inj.1 hab).1 y hy

theorem topo_perm_ext {t : T} {s : Nat} {ext l : List Nat} (h : topo t s ext = .ok l) :
    l.Perm (t.mem s) :=
  (List.subperm_of_subset (topo_nodup h) (topo_subset h)).perm_of_length_le
    (topo_inv t s ext (fun _ => True) trivial (fun _ _ _ _ _ _ => trivial) l h).2

theorem mem_topo {t : T} {s : Nat} {ext l : List Nat} (h : topo t s ext = .ok l) {k : Nat} : k ∈ l ↔ k ∈ t.mem s :=
  (topo_perm_ext h).mem_iff

theorem topo_nil {t : T} {s : Nat} {l : List Nat} (h : topo t s = .ok l) (he : t.mem s = []) : l = [] :=
  (he ▸ topo_perm_ext h).eq_nil

theorem topo_req_mem {t : T} {s j r : Nat} {l : List Nat} (h : topo t s = .ok l) (hj : j ∈ l) (hr : r ∈ t.req j) :
    r ∈ l := by
  obtain ⟨a, b, rfl⟩ := List.append_of_mem hj
  simp [topo_order t s _ h a j b rfl r hr]

/-- the first job of a topological order is an entry job -/
theorem entry_exists (t : T) (s : Nat) (l : List Nat) (h : topo t s = .ok l) (hne : t.mem s ≠ []) :
    entryJobs t s ≠ [] := by
  have hperm := topo_perm_ext h
  cases l with
  | nil => exact absurd hperm.symm.eq_nil hne
  | cons x b =>
    have hreq : t.req x = [] := List.eq_nil_iff_forall_not_mem.2 fun y hy => by
      simpa using topo_order t s (x :: b) h [] x b rfl y hy
    have hx : x ∈ entryJobs t s := List.mem_filter.2 ⟨hperm.mem_iff.1 (by simp), by simp [hreq]⟩
    exact List.ne_nil_of_mem hx

/-- the last job of a topological order is an exit job (possibly a forever one) -/
theorem exit_exists (t : T) (s : Nat) (l : List Nat) (h : topo t s = .ok l) (hne : t.mem s ≠ []) :
    exitJobs t s false ≠ [] := by
  have hperm := topo_perm_ext h
  have hnd := topo_nodup h
  rcases List.eq_nil_or_concat l with rfl | ⟨a, x, hax⟩
  · exact absurd hperm.symm.eq_nil hne
  · rw [List.concat_eq_append] at hax
    subst hax
    have hxa : x ∉ a := fun hx => (List.nodup_append.1 hnd).2.2 x hx x (by simp) rfl
    -- whoever requires `x` comes after `x`, which is last
    have hsucc : succOf t s x = [] := by
      unfold succOf
      rw [List.filter_eq_nil_iff]
      intro k hk hxk
      have hxk : x ∈ t.req k := by simpa using hxk
      rcases List.mem_append.1 (hperm.mem_iff.2 hk) with hka | hkx
      · obtain ⟨a1, a2, rfl⟩ := List.append_of_mem hka
        exact hxa (List.mem_append_left _ (topo_order t s _ h a1 k (a2 ++ [x]) (by simp) x hxk))
      · cases List.mem_singleton.1 hkx
        exact hxa (topo_order t s _ h a _ [] rfl _ hxk)
    have hx : x ∈ exitJobs t s false :=
      List.mem_filter.2 ⟨hperm.mem_iff.1 (by simp), by simp [hsucc]⟩
    exact List.ne_nil_of_mem hx

theorem reach_before (t : T) (s : Nat) (l : List Nat)
    (hord : ∀ a x b, l = a ++ x :: b → ∀ y ∈ t.req x, y ∈ a) {x z : Nat} (h : Reach t s x z) :
    ∀ a b, l = a ++ x :: b → z ∈ a := by
  induction h with
  | single e => intro a b hab; exact hord a _ b hab _ e.1
  | @tail y z _ e ih =>
    intro a b hab
    have hy := ih a b hab
    obtain ⟨a1, a2, rfl⟩ := List.append_of_mem hy
    have := hord a1 y (a2 ++ x :: b) (by simpa using hab) z e.1
    exact List.mem_append_left _ this

theorem acyclic_of_topo_ok (t : T) (s : Nat) (l : List Nat) (h : topo t s = .ok l) : Acyclic t s := by
  intro x hx
  have hxm : x ∈ l := (mem_topo h).2 hx.mem_left
  obtain ⟨a, b, hab, hxa⟩ := List.eq_append_cons_of_mem hxm
  exact hxa (reach_before t s l (topo_order t s l h) hx a b hab)

theorem exists_minimal (R : Nat → Nat → Prop) (htrans : ∀ x y z, R x y → R y z → R x z)
    (hirr : ∀ x, ¬ R x x) : ∀ U : List Nat, U ≠ [] → ∃ m ∈ U, ∀ y ∈ U, ¬ R m y := by
  intro U
  induction U with
  | nil => exact fun h => absurd rfl h
  | cons x U ih =>
    intro _
    by_cases hU : U = []
    · exact ⟨x, List.mem_cons_self, hU ▸ List.forall_mem_cons.2 ⟨hirr x, nofun⟩⟩
    · obtain ⟨m, hm, hmin⟩ := ih hU
      by_cases hmx : R m x
      · exact ⟨x, List.mem_cons_self, List.forall_mem_cons.2
          ⟨hirr x, fun y hy hxy => hmin y hy (htrans _ _ _ hmx hxy)⟩⟩
      · exact ⟨m, List.mem_cons_of_mem _ hm, List.forall_mem_cons.2 ⟨hmx, hmin⟩⟩

theorem stuck_not_acyclic (t : T) (s : Nat) (hnd : (t.mem s).Nodup) (hcl : Closed t s) (hac : Acyclic t s)
    (m : List Nat) (hlt : m.length < (t.mem s).length) (heq : (sweep t [] (t.mem s) m).length = m.length) :
    False := by
  have hfix := sweep_fix t [] (t.mem s) m heq
  have hU : (t.mem s).filter (fun j => decide (j ∉ m)) ≠ [] := by
    intro hnil
    refine Nat.not_le.2 hlt (hnd.length_le_of_subset fun j hj => Classical.byContradiction fun hjm => ?_)
    exact List.filter_eq_nil_iff.1 hnil j hj (by simpa using hjm)
  obtain ⟨x, hx, hmin⟩ := exists_minimal (Reach t s) (fun _ _ _ => Reach.trans) hac _ hU
  simp only [List.mem_filter, decide_eq_true_eq] at hx hmin
  rcases hfix x hx.1 with hxm | hcm
  · exact hx.2 hxm
  · have : ¬ ∀ r ∈ t.req x, r ∈ m := by rw [← canMark_nil_iff, hcm]; simp
    refine this fun r hr => Classical.byContradiction fun hrm => ?_
    have hrmem := hcl x hx.1 r hr
    exact hmin r ⟨hrmem, hrm⟩ (.single ⟨hr, hx.1, hrmem⟩)

theorem topo_ok_of_acyclic (t : T) (s : Nat) (hnd : (t.mem s).Nodup) (hcl : Closed t s)
    (hac : Acyclic t s) : ∃ l, topo t s = .ok l := by
  rcases topo_cases t s [] with h | ⟨_, m, h1, h2⟩
  · exact h
  · exact (stuck_not_acyclic t s hnd hcl hac m h1 h2).elim

end AJ.Proofs.C15
