/-
  C04, last sentence: `why()` names exactly the cause of a failed run, and none after a success.  `why()` is a
  function of the two diagnosis flags (Model/Why.lean); the flags are tied to the history by `failT_iff_timesOut`,
  `failC_iff_critOut`, `diag_exclusive`, and to the verdict by `verdict_true_iff`.
-/
import AJ.Model.Why
import AJ.Proofs.ExitB
namespace AJ.Proofs.WhyB
open AJ.Run AJ.Full AJ.Proofs.CoreB AJ.Proofs.ExitB AJ.Proofs.Gap1

theorem why_fine {c : Cfg} {st : StB} {s : Nat} : st.why c s = .fine ↔ st.failT s = false ∧ st.failC s = false := by
  unfold StB.why whyOf
  cases st.failT s <;> cases st.failC s <;> simp

theorem why_timedOut {c : Cfg} {st : StB} {s : Nat} {t : Option Nat} :
    st.why c s = .timedOut t ↔ st.failT s = true ∧ t = c.timeout s := by
  unfold StB.why whyOf
  cases st.failT s <;> cases st.failC s <;> simp [eq_comm]

theorem why_critical {c : Cfg} {st : StB} {s : Nat} : st.why c s = .critical ↔ st.failT s = false ∧ st.failC s = true := by
  unfold StB.why whyOf
  cases st.failT s <;> cases st.failC s <;> simp

theorem why_fine_iff (c : Cfg) (hwf : c.wf = true) (evs : List EvB) (st : StB)
    (h : acceptB c StB.init evs = some st) (s : Nat) :
    st.why c s = .fine ↔ ¬ timesOut c s evs ∧ ¬ critOut c s evs := by
  rw [why_fine, ← failT_iff_timesOut c hwf evs st h s, ← failC_iff_critOut c hwf evs st h s]
  simp

theorem why_timedOut_iff (c : Cfg) (hwf : c.wf = true) (evs : List EvB) (st : StB)
    (h : acceptB c StB.init evs = some st) (s : Nat) :
    st.why c s = .timedOut (c.timeout s) ↔ timesOut c s evs := by
  rw [why_timedOut, ← failT_iff_timesOut c hwf evs st h s]
  simp

theorem why_timedOut_value (c : Cfg) (st : StB) (s : Nat) (t : Option Nat)
    (hw : st.why c s = .timedOut t) : t = c.timeout s :=
  (why_timedOut.1 hw).2

theorem why_critical_iff (c : Cfg) (hwf : c.wf = true) (evs : List EvB) (st : StB)
    (h : acceptB c StB.init evs = some st) (s : Nat) :
    st.why c s = .critical ↔ critOut c s evs := by
  have hx := diag_exclusive c hwf evs st h s
  rw [why_critical, ← failC_iff_critOut c hwf evs st h s]
  exact ⟨And.right, fun hC => ⟨by simpa [hC] using hx, hC⟩⟩

/-- none after a success: a run that returned `True` says `"FINE"` -/
theorem why_fine_of_true (c : Cfg) (hwf : c.wf = true) (evs : List EvB) (st : StB)
    (h : acceptB c StB.init evs = some st) (s : Nat) (hs : s < c.n) (hsch : c.isSched s = true)
    (hover : st.pcB s = .over) (hne : c.children s ≠ [])
    (ht : st.a.ph s = .done (.retBool true)) : st.why c s = .fine := by
  have hv := (verdict_true_iff c hwf evs st h s hs hsch hover hne).1 ht
  exact (why_fine_iff c hwf evs st h s).2 ⟨hv.1, hv.2.1⟩

/-- exactly that cause after a failure: a run that is over, did not return `True`, was not cancelled and did not raise
    the exception of its own orchestration names the expiry or the critical failure that took it out of its loop -/
theorem why_names_cause (c : Cfg) (hwf : c.wf = true) (evs : List EvB) (st : StB)
    (h : acceptB c StB.init evs = some st) (s : Nat) (hs : s < c.n) (hsch : c.isSched s = true)
    (hover : st.pcB s = .over) (hne : c.children s ≠ [])
    (hnt : st.a.ph s ≠ .done (.retBool true)) (hnc : st.a.ph s ≠ .cancelled)
    (hno : st.a.ph s ≠ .done (.exc (.orch s))) :
    (st.why c s = .timedOut (c.timeout s) ∧ timesOut c s evs) ∨ (st.why c s = .critical ∧ critOut c s evs) := by
  have hv := verdict_true_iff c hwf evs st h s hs hsch hover hne
  by_cases h1 : timesOut c s evs
  · exact Or.inl ⟨(why_timedOut_iff c hwf evs st h s).2 h1, h1⟩
  · by_cases h2 : critOut c s evs
    · exact Or.inr ⟨(why_critical_iff c hwf evs st h s).2 h2, h2⟩
    · exact absurd (hv.2 ⟨h1, h2, hnc, hno⟩) hnt

theorem why_cause_kept (c : Cfg) (hwf : c.wf = true) (evs more : List EvB) (st st' : StB)
    (h : acceptB c StB.init evs = some st) (h' : acceptB c StB.init (evs ++ more) = some st') (s : Nat)
    (hw : st.why c s ≠ .fine) : st'.why c s ≠ .fine := by
  intro hf
  obtain ⟨h1, h2⟩ := (why_fine_iff c hwf (evs ++ more) st' h' s).1 hf
  exact hw ((why_fine_iff c hwf evs st h s).2
    ⟨fun h => h1 (Sometime.append more h), fun h => h2 (Sometime.append more h)⟩)

/-- `"TIMED OUT after Nones"` is never said: the message carries a number, and that much time has passed since the
    run began -/
theorem why_timedOut_means (c : Cfg) (hwf : c.wf = true) (evs : List EvB) (st : StB)
    (h : acceptB c StB.init evs = some st) (s : Nat) (t : Option Nat) (hw : st.why c s = .timedOut t) :
    ∃ T, t = some T ∧ c.timeout s = some T ∧ st.tbegin s + T ≤ st.a.now := by
  obtain ⟨hf, ht⟩ := why_timedOut.1 hw
  obtain ⟨T, h1, h2⟩ := (exitInv_reach c hwf evs st h).failTMeans s hf
  exact ⟨T, by rw [ht, h1], h1, h2⟩

theorem why_critical_means (c : Cfg) (hwf : c.wf = true) (evs : List EvB) (st : StB)
    (h : acceptB c StB.init evs = some st) (s : Nat) (hw : st.why c s = .critical) :
    ∃ k ∈ c.children s, c.critical k = true ∧ ∃ ex, st.a.ph k = .done (.exc ex) :=
  (exitInv_reach c hwf evs st h).failCMeans s (why_critical.1 hw).2

theorem why_fine_in_loop (c : Cfg) (hwf : c.wf = true) (evs : List EvB) (st : StB)
    (h : acceptB c StB.init evs = some st) (s : Nat) (hp : st.pcB s = .notBegun ∨ st.pcB s = .loop) :
    st.why c s = .fine :=
  why_fine.2 ((invB_reach c hwf evs st h).diag_clear (by rcases hp with hp | hp <;> rw [hp] <;> rfl)
    (by rcases hp with hp | hp <;> rw [hp] <;> simp))

/-! ### non-vacuity: the expiry of `tmoCfg` (ExitB) says "TIMED OUT after 3s" -/
example : (acceptB tmoCfg StB.init tmoEvs).map (fun st => st.why tmoCfg 0) = some (.timedOut (some 3)) := by decide
example : (acceptB tmoCfg StB.init [.runBegin, .grant 1]).map (fun st => st.why tmoCfg 0) = some .fine := by decide

end AJ.Proofs.WhyB
