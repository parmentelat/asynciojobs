/-
  Layer A of the dynamic model: the invariant `InvA` of reachable states and the state-level theorems behind
  C01, C02 (at most once), C07, C12, C14.  A step of `StepA` is one or two operations on the state (a body begins:
  `inv_run`; a task ends: `inv_end`; a run creates tasks: `inv_startJobs`; a wait returns; a run leaves its loop),
  each with its own preservation lemma, and `InvA.step` puts them together.  `StepA` being the relation of the lax
  model, the reachability theorem is that of the lax model; the theorems about the strict model follow.
  `WF`: what `Cfg.wf` says, with the induction along `parent` it allows (`WF.parent_ind`).
-/
import AJ.Proofs.HistA
namespace AJ.Proofs.CoreA
open AJ.Run

/-- number of children of `s` whose body is executing -/
def runningCount (c : Cfg) (st : StA) (s : Nat) : Nat :=
  ((c.children s).filter fun k => st.ph k == .running).length

structure WF (c : Cfg) : Prop where
  npos : 0 < c.n
  sched0 : c.isSched 0 = true
  parent0 : c.parent 0 = 0
  req0 : c.req 0 = []
  parentLt : ∀ j, 0 < j → j < c.n → c.parent j < j
  parentSched : ∀ j, 0 < j → j < c.n → c.isSched (c.parent j) = true
  reqLt : ∀ j, 0 < j → j < c.n → ∀ r ∈ c.req j, r < j
  reqPos : ∀ j, 0 < j → j < c.n → ∀ r ∈ c.req j, 0 < r
  reqParent : ∀ j, 0 < j → j < c.n → ∀ r ∈ c.req j, c.parent r = c.parent j

theorem wf_of {c : Cfg} (h : c.wf = true) : WF c := by
  simp only [Cfg.wf, Bool.and_eq_true, decide_eq_true_eq, beq_iff_eq, List.all_eq_true,
    List.mem_range, Bool.or_eq_true, List.isEmpty_iff] at h
  obtain ⟨⟨⟨⟨h1, h2⟩, h3⟩, h4⟩, h5⟩ := h
  refine ⟨h1, h2, h3, h4, ?_, ?_, ?_, ?_, ?_⟩
  all_goals
    intro j hj0 hjn
    have := h5 j hjn
    have hne : ¬ j = 0 := by omega
    simp only [hne, false_or] at this
  · exact this.1.1
  · exact this.1.2
  · intro r hr; exact (this.2 r hr).1.1
  · intro r hr; exact (this.2 r hr).1.2
  · intro r hr; exact (this.2 r hr).2

theorem WF.parentLtN {c : Cfg} (w : WF c) {j : Nat} (h0 : 0 < j) (hn : j < c.n) : c.parent j < c.n := by
  have := w.parentLt j h0 hn; omega

theorem WF.pos_of_atomic {c : Cfg} (w : WF c) {j : Nat} (hjs : c.isSched j = false) : 0 < j :=
  Nat.pos_of_ne_zero fun h => by subst h; rw [w.sched0] at hjs; cases hjs

theorem WF.parent_ind {c : Cfg} (w : WF c) {P : Nat → Prop} (h0 : P 0)
    (hstep : ∀ j, 0 < j → j < c.n → P (c.parent j) → P j) : ∀ j, j < c.n → P j := by
  intro j
  induction j using Nat.strongRecOn with
  | _ j ih =>
    intro hn
    rcases Nat.eq_zero_or_pos j with h | h
    · subst h; exact h0
    · have hp := w.parentLt j h hn
      exact hstep j h hn (ih _ hp (by omega))

theorem WF.req_child {c : Cfg} (w : WF c) {s k r : Nat} (hk : k ∈ c.children s) (hr : r ∈ c.req k) :
    r ∈ c.children s := by
  rw [mem_children] at hk ⊢
  obtain ⟨hn, h0, hp⟩ := hk
  have h0' : 0 < k := by omega
  have := w.reqLt k h0' hn r hr
  have := w.reqPos k h0' hn r hr
  have := w.reqParent k h0' hn r hr
  refine ⟨by omega, by omega, by omega⟩

theorem not_self_child {c : Cfg} (w : WF c) (s : Nat) : s ∉ c.children s := by
  intro h
  rw [mem_children] at h
  have := w.parentLt s (by omega) h.1
  omega

/-- `runningCount` as a function of the phases alone, to follow it through `setAt` -/
def rcOf (c : Cfg) (ph : Nat → Ph) (s : Nat) : Nat :=
  ((c.children s).filter fun k => ph k == .running).length

theorem runningCount_eq (c : Cfg) (st : StA) (s : Nat) : runningCount c st s = rcOf c st.ph s := rfl

theorem rcOf_eq_countP (c : Cfg) (ph : Nat → Ph) (s : Nat) :
    rcOf c ph s = (List.range c.n).countP (fun k => (k != 0 && c.parent k == s) && ph k == .running) := by
  simp [rcOf, Cfg.children, List.filter_filter, List.countP_eq_length_filter, Bool.and_comm]

theorem countP_range_update (p q : Nat → Bool) (j : Nat) (h : ∀ k, k ≠ j → p k = q k)
    (hp : p j = false) (hq : q j = true) :
    ∀ n, j < n → (List.range n).countP q = (List.range n).countP p + 1 := by
  intro n
  induction n with
  | zero => intro h; omega
  | succ n ih =>
    intro hj
    rw [List.range_succ, List.countP_append, List.countP_append]
    by_cases hjn : j = n
    · subst hjn
      rw [List.countP_congr (p := q) (q := p) fun k hk => by rw [h k (Nat.ne_of_lt (List.mem_range.1 hk))]]
      simp [hp, hq]
    · have := ih (by omega)
      rw [this]
      have : p n = q n := h n (by omega)
      simp [this]
      omega

theorem rcOf_congr (c : Cfg) (ph ph' : Nat → Ph) (s : Nat)
    (h : ∀ k ∈ c.children s, (ph k == Ph.running) = (ph' k == Ph.running)) : rcOf c ph s = rcOf c ph' s :=
  congrArg List.length (List.filter_congr h)

theorem rcOf_zero (c : Cfg) (ph : Nat → Ph) (s : Nat) (h : ∀ k ∈ c.children s, ph k ≠ .running) :
    rcOf c ph s = 0 := by
  unfold rcOf
  simp only [List.length_eq_zero_iff, List.filter_eq_nil_iff]
  intro k hk
  simpa using h k hk

theorem rcOf_setAt_other (c : Cfg) (ph : Nat → Ph) (j s : Nat) (v : Ph) (hs : j = 0 ∨ c.parent j ≠ s) :
    rcOf c (setAt ph j v) s = rcOf c ph s := by
  apply rcOf_congr
  intro k hk
  have : k ≠ j := by rintro rfl; exact hs.elim (mem_children.1 hk).2.1 fun h => h (mem_children.1 hk).2.2
  rw [setAt_of_ne _ _ this]

theorem rcOf_setAt_same (c : Cfg) (ph : Nat → Ph) (j s : Nat) (v : Ph) (hb : ph j ≠ .running) (hv : v ≠ .running) :
    rcOf c (setAt ph j v) s = rcOf c ph s := by
  apply rcOf_congr
  intro k _
  by_cases hk : k = j
  · subst hk
    have h1 : (v == Ph.running) = false := by simpa using hv
    have h2 : (ph k == Ph.running) = false := by simpa using hb
    simp [setAt, h1, h2]
  · simp [setAt, hk]

theorem rcOf_setAt_inc (c : Cfg) (ph : Nat → Ph) (j : Nat) (h0 : 0 < j) (hn : j < c.n) (hb : ph j ≠ .running) :
    rcOf c (setAt ph j .running) (c.parent j) = rcOf c ph (c.parent j) + 1 := by
  rw [rcOf_eq_countP, rcOf_eq_countP]
  apply countP_range_update _ _ j _ _ _ _ hn
  · intro k hk; rw [setAt_of_ne _ _ hk]
  · simp [hb]
  · simp; omega

theorem rcOf_setAt_dec (c : Cfg) (ph : Nat → Ph) (j : Nat) (v : Ph) (h0 : 0 < j) (hn : j < c.n)
    (hb : ph j = .running) (hv : v ≠ .running) :
    rcOf c (setAt ph j v) (c.parent j) + 1 = rcOf c ph (c.parent j) := by
  have := rcOf_setAt_inc c (setAt ph j v) j h0 hn (by simpa using hv)
  rwa [setAt_setAt, ← hb, setAt_eq_self, eq_comm] at this

theorem rcOf_start (c : Cfg) (ph : Nat → Ph) (S : List Nat) (s : Nat) :
    rcOf c (fun k => if k ∈ S ∧ ph k = .idle then .queued else ph k) s = rcOf c ph s := by
  apply rcOf_congr
  intro k _
  by_cases h : k ∈ S ∧ ph k = .idle
  · simp only [h, and_self, if_true]; rfl
  · simp only [h, if_false]

/-- what holds in every reachable state of layer A -/
structure InvA (c : Cfg) (st : StA) : Prop where
  phRange : ∀ j, st.ph j ≠ .idle → j < c.n
  notBegun : ∀ s, c.isSched s = true → (st.ph s = .idle ∨ st.ph s = .queued) → st.pc s = .notBegun
  childIdle : ∀ k, 0 < k → k < c.n → st.pc (c.parent k) = .notBegun → st.ph k = .idle
  /-- `_running` is false before the slot is taken, true from then on -/
  rflagOff : ∀ j, (st.ph j = .idle ∨ st.ph j = .queued) → st.rflag j = false
  rflagOn : ∀ j, (st.ph j = .running ∨ (st.ph j).isDone = true) → st.rflag j = true
  /-- only finished tasks are handed over by `asyncio.wait` -/
  delivFin : ∀ k, st.deliv k = true → ((st.ph k).isDone = true ∨ st.ph k = .cancelled)
  /-- C01: a job that was started has all its requirements finished -/
  reqsDone : ∀ k, 0 < k → k < c.n → st.ph k ≠ .idle → ∀ r ∈ c.req k, (st.ph r).isDone = true
  rxLoop : ∀ s D, st.rx s = some D → st.pc s = .loop ∧ ∀ d ∈ D, st.deliv d = true
  /-- C07: the window queue holds one item per executing job -/
  qcountEq : ∀ s, s < c.n → c.isSched s = true → st.qcount s = runningCount c st s
  qcountLe : ∀ s, s < c.n → c.isSched s = true → c.window s ≠ 0 → st.qcount s ≤ c.window s
  /-- C02: bodies are entered at most once, no task is created twice -/
  entries0 : ∀ j, (st.ph j = .idle ∨ st.ph j = .queued) → st.entries j = 0
  entries1 : ∀ j, st.entries j ≤ 1
  noDbl : st.dbl = false
  /-- C12: while a run is in its main loop, an idle job has a requirement that is not
      finished-and-reported-and-reacted-to -/
  eager : ∀ s, st.pc s = .loop → ∀ k ∈ c.children s, st.ph k = .idle →
            ∃ r ∈ c.req k, ¬ ((st.ph r).isDone = true ∧ st.deliv r = true ∧ r ∉ (st.rx s).getD [])
  creqLive : ∀ j, st.creq j = true → (st.ph j).live = true

theorem setAt_same {α : Type} (f : Nat → α) (j : Nat) (a : α) : setAt f j a j = a := by simp [setAt]

theorem setAt_ne {α : Type} (f : Nat → α) (j k : Nat) (a : α) (h : k ≠ j) : setAt f j a k = f k := by simp [setAt, h]

theorem InvA.delivOff {c : Cfg} {st : StA} (hinv : InvA c st) {j : Nat}
    (h : st.ph j = .idle ∨ st.ph j = .queued ∨ st.ph j = .running) : st.deliv j = false := by
  cases hd : st.deliv j with
  | false => rfl
  | true => rcases h with h | h | h <;> simpa [h, Ph.isDone] using hinv.delivFin j hd

theorem InvA.creqOff {c : Cfg} {st : StA} (hinv : InvA c st) {j : Nat}
    (h : st.ph j = .idle) : st.creq j = false := by
  cases hd : st.creq j with
  | false => rfl
  | true => simpa [h, Ph.live] using hinv.creqLive j hd

theorem InvA.parentBegun {c : Cfg} {st : StA} (hinv : InvA c st) {k : Nat} (h0 : 0 < k) (hn : k < c.n)
    (h : st.ph k ≠ .idle) : st.pc (c.parent k) ≠ .notBegun :=
  fun hp => h (hinv.childIdle k h0 hn hp)

theorem InvA.childrenIdle {c : Cfg} {st : StA} (hinv : InvA c st) {s : Nat} (h : st.pc s = .notBegun) :
    ∀ k ∈ c.children s, st.ph k = .idle := by
  intro k hk
  rw [mem_children] at hk
  exact hinv.childIdle k (by omega) hk.1 (by rw [hk.2.2]; exact h)

/-- the body of `j` begins: the task of the top-level scheduler is started by `run()`, any other obtains its window
    slot; `q` are the window counts and `en` the entry counts afterwards -/
theorem inv_run {c : Cfg} {a : StA} (hinv : InvA c a) {j : Nat} {q en : Nat → Nat} (hjn : j < c.n)
    (hph : (j = 0 ∧ a.ph j = .idle) ∨ (0 < j ∧ a.ph j = .queued))
    (hq : ∀ s, s < c.n → c.isSched s = true →
      q s = rcOf c (setAt a.ph j .running) s ∧ (c.window s ≠ 0 → q s ≤ c.window s))
    (hen : ∀ k, en k ≤ 1 ∧ (k ≠ j → en k = a.entries k)) :
    InvA c { a with ph := setAt a.ph j .running, rflag := setAt a.rflag j true, qcount := q, entries := en } := by
  have hnd : (a.ph j).isDone = false := by rcases hph with ⟨_, h⟩ | ⟨_, h⟩ <;> simp [h, Ph.isDone]
  have hne : ∀ k, 0 < k → (a.ph k = .idle → k ≠ j) := fun k h0 hi e => by
    subst e; rcases hph with ⟨rfl, _⟩ | ⟨_, h⟩
    · omega
    · simp [h] at hi
  exact
  { phRange := fun k hk => by
      by_cases e : k = j
      · exact e ▸ hjn
      · exact hinv.phRange k (by simpa [setAt, e] using hk)
    notBegun := fun s hs hk => by
      by_cases e : s = j
      · simp [setAt, e] at hk
      · exact hinv.notBegun s hs (by simpa [setAt, e] using hk)
    childIdle := fun k h0 hn hp => by
      have hi := hinv.childIdle k h0 hn hp
      simpa [setAt, hne k h0 hi] using hi
    rflagOff := fun k hk => by
      by_cases e : k = j
      · simp [setAt, e] at hk
      · simpa [setAt, e] using hinv.rflagOff k (by simpa [setAt, e] using hk)
    rflagOn := fun k hk => by
      by_cases e : k = j
      · simp [setAt, e]
      · simpa [setAt, e] using hinv.rflagOn k (by simpa [setAt, e] using hk)
    delivFin := fun k hk => by
      by_cases e : k = j
      · subst e; have := hinv.delivFin k hk; rcases hph with ⟨_, h⟩ | ⟨_, h⟩ <;> simp [h, Ph.isDone] at this
      · simpa [setAt, e] using hinv.delivFin k hk
    reqsDone := fun k h0 hn hk r hr => by
      have hk' : a.ph k ≠ .idle := fun hi => by simp [setAt, hne k h0 hi, hi] at hk
      have hd := hinv.reqsDone k h0 hn hk' r hr
      have e : r ≠ j := fun e => by simp [e, hnd] at hd
      simpa [setAt, e] using hd
    rxLoop := hinv.rxLoop
    qcountEq := fun s hs hsch => (hq s hs hsch).1
    qcountLe := fun s hs hsch => (hq s hs hsch).2
    entries0 := fun k hk => by
      by_cases e : k = j
      · simp [setAt, e] at hk
      · exact ((hen k).2 e).trans (hinv.entries0 k (by simpa [setAt, e] using hk))
    entries1 := fun k => (hen k).1
    noDbl := hinv.noDbl
    eager := fun s hl k hk hi => by
      have e : k ≠ j := fun e => by simp [setAt, e] at hi
      obtain ⟨r, hr, hnr⟩ := hinv.eager s hl k hk (by simpa [setAt, e] using hi)
      refine ⟨r, hr, fun h => hnr ?_⟩
      by_cases e : r = j
      · simp [setAt, e, Ph.isDone] at h
      · simpa [setAt, e] using h
    creqLive := fun k hk => by
      by_cases e : k = j
      · simp [setAt, e, Ph.live]
      · simpa [setAt, e] using hinv.creqLive k hk }

theorem inv_grant {c : Cfg} {a : StA} (hinv : InvA c a) {j : Nat}
    (hj0 : 0 < j) (hjn : j < c.n) (hph : a.ph j = .queued) (hslot : slotFree c a (c.parent j) = true) :
    InvA c { a with ph := setAt a.ph j .running, rflag := setAt a.rflag j true,
                    qcount := setAt a.qcount (c.parent j) (a.qcount (c.parent j) + 1),
                    entries := setAt a.entries j (a.entries j + 1) } := by
  refine inv_run hinv hjn (.inr ⟨hj0, hph⟩) (fun s hs hsch => ?_) (fun k => ?_)
  · have := hinv.qcountEq s hs hsch
    simp only [runningCount_eq] at this
    by_cases hsp : s = c.parent j
    · subst hsp
      rw [rcOf_setAt_inc c a.ph j hj0 hjn (by simp [hph]), ← this, setAt_self]
      simp only [slotFree, Bool.or_eq_true, beq_iff_eq, decide_eq_true_eq] at hslot
      exact ⟨rfl, fun hw => Nat.succ_le_of_lt (hslot.resolve_left hw)⟩
    · rw [setAt_of_ne _ _ hsp, rcOf_setAt_other c a.ph j s _ (.inr (Ne.symm hsp))]
      exact ⟨this, hinv.qcountLe s hs hsch⟩
  · by_cases e : k = j
    · subst e; simp [hinv.entries0 k (.inr hph)]
    · exact ⟨by rw [setAt_of_ne _ _ e]; exact hinv.entries1 k, fun _ => setAt_of_ne _ _ e⟩

theorem inv_runTop {c : Cfg} {a : StA} (hinv : InvA c a) (hn : 0 < c.n) (hph : a.ph 0 = .idle) :
    InvA c { a with ph := setAt a.ph 0 .running, rflag := setAt a.rflag 0 true } :=
  inv_run hinv hn (.inl ⟨rfl, hph⟩)
    (fun s hs hsch => ⟨by rw [rcOf_setAt_other c a.ph 0 s _ (.inl rfl)]; exact hinv.qcountEq s hs hsch,
      hinv.qcountLe s hs hsch⟩)
    (fun k => ⟨hinv.entries1 k, fun _ => rfl⟩)

/-- a task ends: `j` goes from a live phase to the final phase `v`, a run that ends with it is `over`;
    `q` are the window counts afterwards -/
theorem inv_end {c : Cfg} {a : StA} (hinv : InvA c a) {j : Nat} {v : Ph} {p : PcA} {q : Nat → Nat}
    (hph : a.ph j = .running ∨ (a.ph j = .queued ∧ v = .cancelled)) (hv : v.isDone = true ∨ v = .cancelled)
    (hp : p = a.pc j ∨ (p = .over ∧ a.pc j ≠ .loop))
    (hq : ∀ s, s < c.n → c.isSched s = true → q s = rcOf c (setAt a.ph j v) s) (hle : ∀ s, q s ≤ a.qcount s) :
    InvA c { a with ph := setAt a.ph j v, creq := setAt a.creq j false, pc := setAt a.pc j p, qcount := q } := by
  have hnd : (a.ph j).isDone = false := by rcases hph with h | ⟨h, _⟩ <;> simp [h, Ph.isDone]
  have hni : a.ph j ≠ .idle := by rcases hph with h | ⟨h, _⟩ <;> simp [h]
  have hdl : a.deliv j = false := hinv.delivOff (by rcases hph with h | ⟨h, _⟩ <;> simp [h])
  have hvl : v ≠ .idle ∧ v ≠ .queued ∧ v ≠ .running := by
    rcases hv with h | h <;> refine ⟨?_, ?_, ?_⟩ <;> rintro rfl <;> simp [Ph.isDone] at h
  have hnb : ∀ s, setAt a.pc j p s = .notBegun → a.pc s = .notBegun := fun s => by
    by_cases e : s = j
    · subst e; rcases hp with h | ⟨h, _⟩ <;> simp [setAt, h]
    · simp [setAt, e]
  have hlp : ∀ s, setAt a.pc j p s = .loop ↔ a.pc s = .loop := fun s => by
    by_cases e : s = j
    · subst e
      rcases hp with h | ⟨h, h'⟩
      · simp [setAt, h]
      · simp [setAt, h, h']
    · simp [setAt, e]
  exact
  { phRange := fun k hk => by
      by_cases e : k = j
      · exact e ▸ hinv.phRange j hni
      · exact hinv.phRange k (by simpa [setAt, e] using hk)
    notBegun := fun s hs hk => by
      by_cases e : s = j
      · simp [setAt, e, hvl] at hk
      · simpa [setAt, e] using hinv.notBegun s hs (by simpa [setAt, e] using hk)
    childIdle := fun k h0 hn hk => by
      have := hinv.childIdle k h0 hn (hnb _ hk)
      have e : k ≠ j := fun e => hni (e ▸ this)
      simpa [setAt, e] using this
    rflagOff := fun k hk => by
      by_cases e : k = j
      · simp [setAt, e, hvl] at hk
      · exact hinv.rflagOff k (by simpa [setAt, e] using hk)
    rflagOn := fun k hk => by
      by_cases e : k = j
      · subst e
        rcases hph with h | ⟨_, rfl⟩
        · exact hinv.rflagOn k (Or.inl h)
        · simp [setAt, Ph.isDone] at hk
      · exact hinv.rflagOn k (by simpa [setAt, e] using hk)
    delivFin := fun k hk => by
      by_cases e : k = j
      · simpa [setAt, e] using hv
      · simpa [setAt, e] using hinv.delivFin k hk
    reqsDone := fun k h0 hn hk r hr => by
      have hk' : a.ph k ≠ .idle := by
        by_cases e : k = j
        · exact e ▸ hni
        · simpa [setAt, e] using hk
      have hd := hinv.reqsDone k h0 hn hk' r hr
      have e : r ≠ j := fun e => by simp [e, hnd] at hd
      simpa [setAt, e] using hd
    rxLoop := fun s D hD => ⟨(hlp s).2 (hinv.rxLoop s D hD).1, (hinv.rxLoop s D hD).2⟩
    qcountEq := hq
    qcountLe := fun s hs hsch hw => Nat.le_trans (hle s) (hinv.qcountLe s hs hsch hw)
    entries0 := fun k hk => by
      by_cases e : k = j
      · simp [setAt, e, hvl] at hk
      · exact hinv.entries0 k (by simpa [setAt, e] using hk)
    entries1 := hinv.entries1
    noDbl := hinv.noDbl
    eager := fun s hl k hk hi => by
      have e : k ≠ j := fun e => by simp [setAt, e, hvl] at hi
      obtain ⟨r, hr, hnr⟩ := hinv.eager s ((hlp s).1 hl) k hk (by simpa [setAt, e] using hi)
      refine ⟨r, hr, fun h => ?_⟩
      by_cases e : r = j
      · simp [e, hdl] at h
      · exact hnr (by simpa [setAt, e] using h)
    creqLive := fun k hk => by
      by_cases e : k = j
      · simp [setAt, e] at hk
      · simpa [setAt, e] using hinv.creqLive k (by simpa [setAt, e] using hk) }

/-- … a task that holds a window slot, and gives it back -/
theorem inv_endSlot {c : Cfg} {a : StA} (hinv : InvA c a) {j : Nat} {v : Ph} {p : PcA} (hj0 : 0 < j) (hjn : j < c.n)
    (hph : a.ph j = .running) (hv : v.isDone = true ∨ v = .cancelled) (hp : p = a.pc j ∨ (p = .over ∧ a.pc j ≠ .loop)) :
    InvA c (release c { a with ph := setAt a.ph j v, creq := setAt a.creq j false, pc := setAt a.pc j p } j) := by
  have hvr : v ≠ .running := by rcases hv with h | h <;> rintro rfl <;> simp [Ph.isDone] at h
  have hdec := rcOf_setAt_dec c a.ph j v hj0 hjn hph hvr
  refine inv_end hinv (Or.inl hph) hv hp (fun s hs hsch => ?_) (fun s => ?_)
  · have := hinv.qcountEq s hs hsch
    simp only [runningCount_eq] at this
    by_cases hsp : s = c.parent j
    · subst hsp; simp only [setAt_self]; omega
    · rw [setAt_of_ne _ _ hsp, rcOf_setAt_other c a.ph j s _ (Or.inr (Ne.symm hsp))]; exact this
  · by_cases hsp : s = c.parent j
    · subst hsp; simp only [setAt_self]; omega
    · rw [setAt_of_ne _ _ hsp]; exact Nat.le_refl _

/-- … a task that holds none: it was waiting for one, or it is the top-level one -/
theorem inv_endFree {c : Cfg} {a : StA} (hinv : InvA c a) {j : Nat} {v : Ph} {p : PcA}
    (hph : (a.ph j = .queued ∧ v = .cancelled) ∨ (j = 0 ∧ a.ph j = .running))
    (hv : v.isDone = true ∨ v = .cancelled) (hp : p = a.pc j ∨ (p = .over ∧ a.pc j ≠ .loop)) :
    InvA c { a with ph := setAt a.ph j v, creq := setAt a.creq j false, pc := setAt a.pc j p } := by
  refine inv_end hinv (hph.symm.imp And.right id) hv hp (fun s hs hsch => ?_) (fun s => Nat.le_refl _)
  have := hinv.qcountEq s hs hsch
  simp only [runningCount_eq] at this
  rw [this]
  rcases hph with ⟨hq, rfl⟩ | ⟨rfl, _⟩
  · exact (rcOf_setAt_same c a.ph j s _ (by simp [hq]) (by simp)).symm
  · exact (rcOf_setAt_other c a.ph 0 s _ (Or.inl rfl)).symm

/-- the run of `s` is in its main loop, nothing reported pending, having created the tasks of the jobs `S`
    (when it begins, and in each reaction); `q` are the window counts afterwards -/
theorem inv_startJobs {c : Cfg} {a : StA} (hinv : InvA c a) {s : Nat} {S : List Nat} {q : Nat → Nat}
    (hph : ¬ (a.ph s = .idle ∨ a.ph s = .queued))
    (hS : ∀ k ∈ S, k ∈ c.children s ∧ a.ph k = .idle ∧ ∀ r ∈ c.req k, (a.ph r).isDone = true)
    (hq : ∀ s', s' < c.n → c.isSched s' = true → q s' = rcOf c a.ph s' ∧ (c.window s' ≠ 0 → q s' ≤ c.window s'))
    (heager : ∀ k ∈ c.children s, a.ph k = .idle → k ∉ S →
      ∃ r ∈ c.req k, ¬ ((a.ph r).isDone = true ∧ a.deliv r = true)) :
    InvA c (startJobs { a with pc := setAt a.pc s .loop, qcount := q, rx := setAt a.rx s none } S) := by
  -- `a1` is kept opaque so that `hcases` / `hdone` / `hkeep` are stated about `a.ph`; a field substitutes it back
  -- when it reads `pc`, `rx` or `qcount`
  generalize ha1 : ({ a with pc := setAt a.pc s .loop, qcount := q, rx := setAt a.rx s none } : StA) = a1
  have hph1 : a1.ph = a.ph := by rw [← ha1]
  have hcases := fun k => hph1 ▸ startJobs_ph_cases a1 S k
  have hdone := fun k => hph1 ▸ startJobs_isDone a1 S k
  have hkeep : ∀ k, a.ph k ≠ .idle → (startJobs a1 S).ph k = a.ph k := fun k hk =>
    (hcases k).resolve_right fun h => hk h.2.1
  exact
  { phRange := fun k hk => by
      rcases hcases k with h | ⟨h, _⟩
      · exact hinv.phRange k (h ▸ hk)
      · exact (mem_children.1 (hS k h).1).1
    notBegun := fun s' hs' hk => by
      have hk' : a.ph s' = .idle ∨ a.ph s' = .queued := by
        rcases hcases s' with h | ⟨_, h, _⟩
        · exact h ▸ hk
        · exact Or.inl h
      have e : s' ≠ s := fun e => hph (e ▸ hk')
      subst ha1
      simpa [startJobs, setAt, e] using hinv.notBegun s' hs' hk'
    childIdle := fun k h0 hn hk => by
      subst ha1
      have e : c.parent k ≠ s := fun e => by simp [startJobs, setAt, e] at hk
      have hi := hinv.childIdle k h0 hn (by simpa [startJobs, setAt, e] using hk)
      rcases hcases k with h | ⟨h, _⟩
      · exact h.trans hi
      · exact absurd (mem_children.1 (hS k h).1).2.2 e
    rflagOff := fun k hk => by
      subst ha1
      rcases hcases k with h | ⟨_, h, _⟩
      · exact hinv.rflagOff k (h ▸ hk)
      · exact hinv.rflagOff k (Or.inl h)
    rflagOn := fun k hk => by
      subst ha1
      refine hinv.rflagOn k ?_
      rcases hcases k with h | ⟨_, _, h⟩
      · exact h ▸ hk
      · simp [h, Ph.isDone] at hk
    delivFin := fun k hk => by
      subst ha1
      have := hinv.delivFin k hk
      rwa [hkeep k (by rintro h; simp [h, Ph.isDone] at this)]
    reqsDone := fun k h0 hn hk r hr => by
      rw [hdone]
      rcases hcases k with h | ⟨h, _⟩
      · exact hinv.reqsDone k h0 hn (h ▸ hk) r hr
      · exact (hS k h).2.2 r hr
    rxLoop := fun s' D hD => by
      subst ha1
      have e : s' ≠ s := fun e => by simp [startJobs, setAt, e] at hD
      simpa [startJobs, setAt, e] using hinv.rxLoop s' D (by simpa [startJobs, setAt, e] using hD)
    qcountEq := fun s' hs' hsch => by
      subst ha1
      exact ((hq s' hs' hsch).1.trans (rcOf_start c a.ph S s').symm)
    qcountLe := fun s' hs' hsch => by subst ha1; exact (hq s' hs' hsch).2
    entries0 := fun k hk => by
      subst ha1
      rcases hcases k with h | ⟨_, h, _⟩
      · exact hinv.entries0 k (h ▸ hk)
      · exact hinv.entries0 k (Or.inl h)
    entries1 := by subst ha1; exact hinv.entries1
    noDbl := by
      subst ha1
      simp only [startJobs, hinv.noDbl, Bool.false_or, List.any_eq_false]
      exact fun k hk => by simp [(hS k hk).2.1]
    eager := fun s' hl k hk hi => by
      obtain ⟨hki, hkS⟩ := startJobs_idle hi
      rw [hph1] at hki
      subst ha1
      by_cases e : s' = s
      · subst e
        obtain ⟨r, hr, hnr⟩ := heager k hk hki hkS
        exact ⟨r, hr, fun h => hnr ⟨(hdone r).symm ▸ h.1, h.2.1⟩⟩
      · obtain ⟨r, hr, hnr⟩ := hinv.eager s' (by simpa [startJobs, setAt, e] using hl) k hk hki
        refine ⟨r, hr, fun h => hnr ⟨(hdone r).symm ▸ h.1, h.2.1, ?_⟩⟩
        simpa [startJobs, setAt, e] using h.2.2
    creqLive := fun k hk => by
      subst ha1
      have := hinv.creqLive k hk
      rwa [hkeep k (by rintro h; simp [h, Ph.live] at this)] }

theorem inv_beginRun {c : Cfg} (w : WF c) {a : StA} (hinv : InvA c a) {s : Nat}
    (hph : a.ph s = .running) (hpc : a.pc s = .notBegun) :
    InvA c (startJobs { a with pc := setAt a.pc s .loop, qcount := setAt a.qcount s 0, rx := setAt a.rx s none }
      (entrySet c s)) := by
  have hidle := hinv.childrenIdle hpc
  refine inv_startJobs hinv (by simp [hph]) (fun k hk => ?_) (fun s' hs' hsch => ?_) (fun k hk _ hkE => ?_)
  · obtain ⟨hk, hr⟩ := mem_entrySet.1 hk
    exact ⟨hk, hidle k hk, by simp [hr]⟩
  · by_cases e : s' = s
    · subst e; simp [rcOf_zero c a.ph s' fun k hk => by simp [hidle k hk]]
    · rw [setAt_of_ne _ _ e]; exact ⟨hinv.qcountEq s' hs' hsch, hinv.qcountLe s' hs' hsch⟩
  · -- `k` is no entry job: it has a requirement, which is a job of `s` and idle like all of them
    cases hreq : c.req k with
    | nil => exact absurd (mem_entrySet.2 ⟨hk, hreq⟩) hkE
    | cons r rs =>
      have hr : r ∈ c.req k := by simp [hreq]
      exact ⟨r, by simp, by simp [hidle r (w.req_child hk hr), Ph.isDone]⟩

theorem inv_waitReturn {c : Cfg} (w : WF c) {a : StA} (hinv : InvA c a) {s : Nat} {D : List Nat}
    (hD : ∀ k ∈ D, k ∈ c.children s ∧ ((a.ph k).isDone = true ∨ a.ph k = .cancelled))
    (hpc : a.pc s = .loop) (hrx : a.rx s = none) :
    InvA c { a with deliv := fun k => a.deliv k || decide (k ∈ D), rx := setAt a.rx s (some D) } :=
  { hinv with
    delivFin := fun k hk => by
      simp only [Bool.or_eq_true, decide_eq_true_eq] at hk
      exact hk.elim (hinv.delivFin k) fun h => (hD k h).2
    rxLoop := fun s' D' hD' => by
      by_cases e : s' = s
      · obtain rfl : D = D' := by simpa [setAt, e] using hD'
        exact ⟨e ▸ hpc, fun d hd => by simp [hd]⟩
      · have := hinv.rxLoop s' D' (by simpa [setAt, e] using hD')
        exact ⟨this.1, fun d hd => by simp [this.2 d hd]⟩
    eager := fun s' hl k hk hi => by
      obtain ⟨r, hr, hnr⟩ := hinv.eager s' hl k hk hi
      refine ⟨r, hr, fun h => ?_⟩
      by_cases e : s' = s
      · subst e
        simp [setAt] at h
        exact hnr ⟨h.1, h.2.1.resolve_right h.2.2, by simp [hrx]⟩
      · -- `r` is a job of `s'`, not of `s`: it is not in `D`
        have hrD : r ∉ D := fun hrd => e (children_inj (w.req_child hk hr) (hD r hrd).1)
        exact hnr (by simpa [setAt, e, hrD] using h) }

theorem inv_leave {c : Cfg} {a : StA} (hinv : InvA c a) {s : Nat} {K : List Nat}
    (hK : ∀ k ∈ K, k ∈ c.children s ∧ (a.ph k).live = true) (hpc : a.pc s = .loop) :
    InvA c { a with pc := setAt a.pc s .exiting, rx := setAt a.rx s none,
                    creq := fun k => a.creq k || decide (k ∈ K) } :=
  { hinv with
    notBegun := fun s' hs' hk => by
      have := hinv.notBegun s' hs' hk
      have e : s' ≠ s := fun e => by simp [e, hpc] at this
      simpa [setAt, e] using this
    childIdle := fun k h0 hn hk => by
      have e : c.parent k ≠ s := fun e => by simp [setAt, e] at hk
      exact hinv.childIdle k h0 hn (by simpa [setAt, e] using hk)
    rxLoop := fun s' D hD => by
      have e : s' ≠ s := fun e => by simp [setAt, e] at hD
      simpa [setAt, e] using hinv.rxLoop s' D (by simpa [setAt, e] using hD)
    eager := fun s' hl k hk hi => by
      have e : s' ≠ s := fun e => by simp [setAt, e] at hl
      simpa [setAt, e] using hinv.eager s' (by simpa [setAt, e] using hl) k hk hi
    creqLive := fun k hk => by
      simp only [Bool.or_eq_true, decide_eq_true_eq] at hk
      exact hk.elim (hinv.creqLive k) fun h => (hK k h).2 }

theorem InvA.step {c : Cfg} (w : WF c) {a a' : StA} {e : EvA} (hinv : InvA c a) (h : StepA c a e a') : InvA c a' := by
  cases h
  case runBeginEmpty hph hpc he =>
    have := inv_endFree (inv_runTop hinv w.npos hph) (j := 0) (v := .done (.retBool true)) (p := .over)
      (Or.inr ⟨rfl, by simp⟩) (Or.inl rfl) (Or.inr ⟨rfl, by simp [hpc]⟩)
    -- `inv_end*` clears `creq j`; here it is `false` already, so the state it speaks of is the step's post-state
    simpa only [setAt_setAt, hinv.creqOff hph ▸ setAt_eq_self a.creq 0] using this
  case runBegin hph hpc he => exact inv_beginRun w (inv_runTop hinv w.npos hph) (by simp) hpc
  case grantJob hj0 hjn hph hcr hslot hs => exact inv_grant hinv hj0 hjn hph hslot
  case grantEmpty j hj0 hjn hph hcr hslot hs he =>
    have := inv_endSlot (inv_grant hinv hj0 hjn hph hslot) (v := .done (.retBool true)) (p := .over) hj0 hjn
      (by simp) (Or.inl rfl) (Or.inr ⟨rfl, by simp [hinv.notBegun j hs (Or.inr hph)]⟩)
    simpa only [release, setAt_setAt, setAt_self, Nat.add_sub_cancel, setAt_eq_self, hcr ▸ setAt_eq_self a.creq j]
      using this
  case grantSched j hj0 hjn hph hcr hslot hs he =>
    exact inv_beginRun w (inv_grant hinv hj0 hjn hph hslot) (by simp) (hinv.notBegun j hs (Or.inr hph))
  case bodyEnd j ok hj0 hjn hs hph hcr =>
    have := inv_endSlot hinv (v := .done (if ok then .retOwn else .exc (.byJob j))) hj0 hjn hph (Or.inl rfl) (Or.inl rfl)
    simpa only [setAt_eq_self, hcr ▸ setAt_eq_self a.creq j] using this
  case cancelQueued j hj0 hjn hcr hph =>
    simpa only [setAt_eq_self] using inv_endFree hinv (Or.inl ⟨hph, rfl⟩) (Or.inr rfl) (Or.inl rfl)
  case cancelRunning j hj0 hjn hcr hph hs =>
    simpa only [setAt_eq_self] using inv_endSlot hinv hj0 hjn hph (Or.inr rfl) (Or.inl rfl)
  case waitReturn s hsn hs hpc hrx hD =>
    exact inv_waitReturn w hinv (fun k hk => ⟨(mem_doneSet.1 hk).1, (mem_doneSet.1 hk).2.1⟩) hpc hrx
  case reactLeave s K D hrx hsn hs hpc hK => exact inv_leave hinv hK hpc
  case reactGo s D hrx hsn hs hpc =>
    have := inv_startJobs hinv (s := s) (q := a.qcount)
      (S := startCands c { a with rx := setAt a.rx s none } s D)
      (fun h => by simpa [hpc] using hinv.notBegun s hs h)
      (fun k hk => ⟨(mem_startCands.1 hk).1, (mem_startCands.1 hk).2.1, (mem_startCands.1 hk).2.2.2⟩)
      (fun s' hs' hsch => ⟨hinv.qcountEq s' hs' hsch, hinv.qcountLe s' hs' hsch⟩)
      (fun k hk hki hkC => ?_)
    · simpa only [hpc ▸ setAt_eq_self a.pc s] using this
    · -- `k` stays idle: a requirement is not done, or none of them has just been reported
      obtain ⟨r, hr, hnr⟩ := hinv.eager s hpc k hk hki
      by_cases hnd : ∃ r' ∈ c.req k, ¬ (a.ph r').isDone = true
      · obtain ⟨r', hr', hnd⟩ := hnd
        exact ⟨r', hr', fun h => hnd h.1⟩
      · have hall : ∀ r' ∈ c.req k, (a.ph r').isDone = true := fun r' hr' =>
          Decidable.by_contra fun hn => hnd ⟨r', hr', hn⟩
        refine ⟨r, hr, fun h => hnr ⟨h.1, h.2, fun hrD => hkC (mem_startCands.2 ⟨hk, hki, ⟨r, hr, ?_⟩, hall⟩)⟩⟩
        simpa [hrx] using hrD
  case leave s K hsn hs hpc hK => exact inv_leave hinv hK hpc
  case finishTop r hs hn hpc hph =>
    exact inv_endFree hinv (Or.inr ⟨rfl, hph⟩) (finPh_final r) (Or.inr ⟨rfl, by simp [hpc]⟩)
  case finish s r hs0 hsn hs hpc hph =>
    exact inv_endSlot hinv (Nat.pos_of_ne_zero hs0) hsn hph (finPh_final r)
      (Or.inr ⟨rfl, by simp [hpc]⟩)
  case tick d hd => exact { hinv with }
  case extCancel hph hcr =>
    exact { hinv with
      creqLive := fun k hk => by
        by_cases e : k = 0
        · simp [e, hph, Ph.live]
        · exact hinv.creqLive k (by simpa [setAt, e] using hk) }

theorem invA_init (c : Cfg) : InvA c StA.init := by
  constructor <;> simp [StA.init, Ph.isDone, Ph.live]
  exact fun s _ _ => (rcOf_zero c (fun _ => .idle) s fun _ _ => nofun).symm

/-- the task of a scheduler is running only while its run is in progress (no `Cfg.wf` needed, so it is kept apart
    from `InvA`) -/
def RunPcA (c : Cfg) (a : StA) : Prop :=
  ∀ s, c.isSched s = true → a.ph s = .running → a.pc s ≠ .notBegun ∧ a.pc s ≠ .over

theorem runPcA_step {c : Cfg} {a a' : StA} {e : EvA} (h : StepA c a e a') (hp : RunPcA c a) : RunPcA c a' := by
  intro s hs
  have := hp s hs
  -- the task of a scheduler `s` becomes `running` only by `grant s` / `runBegin`, which set `pc s := loop` (with no
  -- children the phase is `done`); `pc s` becomes `over` only by `finish s`, which sets `ph s := finPh r ≠ running`
  cases h <;> simp only [startJobs, release, setAt] <;> grind [finPh_ne_running]

end AJ.Proofs.CoreA

namespace AJ.Proofs.LaxA
open AJ.Run AJ.Proofs.CoreA

theorem invAL_reach (c : Cfg) (hwf : c.wf = true) (evs : List EvA) (st : StA)
    (h : acceptAL c StA.init evs = some st) : InvA c st :=
  (isRunAL c).invariant h (invA_init c) fun _ _ _ hinv hs => hinv.step (wf_of hwf) (stepAL_iff.1 hs)

theorem predicates_chain (c : Cfg) (hwf : c.wf = true) (evs : List EvA) (st : StA)
    (h : acceptAL c StA.init evs = some st) (j : Nat) :
    (isDone st j = true → isRunning st j = true) ∧
    (isRunning st j = true → isScheduled st j = true) ∧
    (isIdle st j = !isScheduled st j) ∧
    (st.ph j = .queued → isScheduled st j = true ∧ isRunning st j = false) ∧
    ((st.ph j = .cancelled ∨ st.ph j = .idle) → isDone st j = false) := by
  have hinv := invAL_reach c hwf evs st h
  have hoff := hinv.rflagOff j
  have hon := hinv.rflagOn j
  simp only [isDone, isRunning, isScheduled, isIdle]
  refine ⟨fun hd => hon (Or.inr hd), ?_, ?_, ?_, ?_⟩
  · intro hr
    by_cases hi : st.ph j = .idle
    · rw [hoff (Or.inl hi)] at hr; cases hr
    · simpa using hi
  · simp only [bne, Bool.not_not]
  · intro hq
    exact ⟨by simp [hq], hoff (Or.inr hq)⟩
  · rintro (hc | hc) <;> simp [hc, Ph.isDone]

/-- C07 without timing assumption -/
theorem window_respected (c : Cfg) (hwf : c.wf = true) (evs : List EvA) (st : StA)
    (h : acceptAL c StA.init evs = some st) (s : Nat) (hs : s < c.n) (hsch : c.isSched s = true)
    (hw : c.window s ≠ 0) : runningCount c st s ≤ c.window s := by
  have hinv := invAL_reach c hwf evs st h
  rw [← hinv.qcountEq s hs hsch]
  exact hinv.qcountLe s hs hsch hw

end AJ.Proofs.LaxA

namespace AJ.Proofs.CoreA
open AJ.Run

theorem invA_reach (c : Cfg) (hwf : c.wf = true) (evs : List EvA) (st : StA)
    (h : acceptA c StA.init evs = some st) : InvA c st :=
  LaxA.invAL_reach c hwf evs st (LaxA.acceptA_sub_acceptAL c evs _ _ h)

/-- C14: no step takes a result back, nor makes a job unscheduled, not running or not done again -/
theorem step_monotone (c : Cfg) (st st' : StA) (e : EvA) (h : stepA c st e = some st') (j : Nat) :
    (∀ r, st.ph j = .done r → st'.ph j = .done r) ∧
    (isScheduled st j = true → isScheduled st' j = true) ∧
    (isRunning st j = true → isRunning st' j = true) ∧
    (isDone st j = true → isDone st' j = true) := by
  have h := StepA.of_stepA h
  simp only [isScheduled, isRunning, isDone, HistA.step_rflag h j]
  refine ⟨fun r hr => ?_, fun hs => ?_, fun hr => by simp [hr], fun hd => ?_⟩
  · rw [ph_final h (.inl (by rw [hr]; rfl)), hr]
  · rcases ph_moves h j with h1 | ⟨_, h2⟩
    · rwa [h1]
    · simpa using h2
  · rwa [ph_final h (.inl hd)]

/-- C07: never more jobs of `s` executing than `jobs_window` allows -/
theorem window_respected (c : Cfg) (hwf : c.wf = true) (evs : List EvA) (st : StA)
    (h : acceptA c StA.init evs = some st) (s : Nat) (hs : s < c.n) (hsch : c.isSched s = true)
    (hw : c.window s ≠ 0) : runningCount c st s ≤ c.window s :=
  LaxA.window_respected c hwf evs st (LaxA.acceptA_sub_acceptAL c evs _ _ h) s hs hsch hw

/-- C14: how `is_idle`, `is_scheduled`, `is_running`, `is_done` hang together in every reachable state -/
theorem predicates_chain (c : Cfg) (hwf : c.wf = true) (evs : List EvA) (st : StA)
    (h : acceptA c StA.init evs = some st) (j : Nat) :
    (isDone st j = true → isRunning st j = true) ∧
    (isRunning st j = true → isScheduled st j = true) ∧
    (isIdle st j = !isScheduled st j) ∧
    (st.ph j = .queued → isScheduled st j = true ∧ isRunning st j = false) ∧
    ((st.ph j = .cancelled ∨ st.ph j = .idle) → isDone st j = false) :=
  LaxA.predicates_chain c hwf evs st (LaxA.acceptA_sub_acceptAL c evs _ _ h) j

/-- C12 as a property of a state: where nothing is urgent (`Calm`, the guard of the strict model's clock), a job of
    a run in its main loop that has no task has an unfinished requirement, and one that waits for its slot was
    cancelled or finds the window full -/
theorem InvA.eager_of_calm {c : Cfg} (w : WF c) {st : StA} (hinv : InvA c st) (hcalm : Calm c st)
    {s : Nat} (hs : s < c.n) (hsch : c.isSched s = true) (hloop : st.pc s = .loop) :
    ∀ k ∈ c.children s,
      (st.ph k = .idle → ∃ r ∈ c.req k, (st.ph r).isDone = false) ∧
      (st.ph k = .queued → st.creq k = true ∨ (c.window s ≠ 0 ∧ runningCount c st s = c.window s)) := by
  obtain ⟨hq, hl⟩ := hcalm
  have hls := hl s (List.mem_range.2 hs)
  have hD : doneSet c st s = [] := Decidable.by_contra fun hD => hls ⟨hsch, hloop, Or.inl hD⟩
  have hrx : st.rx s = none := Decidable.by_contra fun hrx => hls ⟨hsch, hloop, Or.inr hrx⟩
  intro k hk
  have hkc := mem_children.1 hk
  constructor
  · intro hi
    obtain ⟨r, hr, hnr⟩ := hinv.eager s hloop k hk hi
    refine ⟨r, hr, ?_⟩
    -- a finished requirement would have been reported (`doneSet` is empty) and reacted to (`rx s = none`)
    cases hdn : (st.ph r).isDone with
    | false => rfl
    | true =>
      exact absurd ⟨hdn, deliv_of_doneSet_nil hD (w.req_child hk hr) hdn, by simp [hrx]⟩ hnr
  · intro hqd
    cases hcr : st.creq k with
    | true => exact Or.inl rfl
    | false =>
      right
      have hns : ¬ slotFree c st (c.parent k) = true := fun hsl =>
        hq k (List.mem_range.2 hkc.1) ⟨by omega, hqd, hcr, hsl⟩
      rw [hkc.2.2] at hns
      simp only [slotFree, Bool.or_eq_true, beq_iff_eq, decide_eq_true_eq, not_or] at hns
      have := hinv.qcountLe s hs hsch hns.1
      have := hinv.qcountEq s hs hsch
      exact ⟨hns.1, by omega⟩

/-- C12: … in a reachable state in which the strict model lets the clock advance -/
theorem eager_at_quiescence (c : Cfg) (hwf : c.wf = true) (evs : List EvA) (st st' : StA) (d : Nat)
    (h : acceptA c StA.init evs = some st) (htick : stepA c st (.tick d) = some st')
    (s : Nat) (hs : s < c.n) (hsch : c.isSched s = true) (hloop : st.pc s = .loop) :
    ∀ k ∈ c.children s,
      (st.ph k = .idle → ∃ r ∈ c.req k, (st.ph r).isDone = false) ∧
      (st.ph k = .queued → st.creq k = true ∨ (c.window s ≠ 0 ∧ runningCount c st s = c.window s)) :=
  (invA_reach c hwf evs st h).eager_of_calm (wf_of hwf) ((stepA_iff.1 htick).2 d rfl) hs hsch hloop

end AJ.Proofs.CoreA

namespace AJ.Proofs.Gap1
open AJ.Run

/-- C02 (the real guard behind "no job runs twice"): along every history of layer A — even without the timing
    assumption — `_create_task` is never called for a job that already has a task, and no body is entered twice -/
theorem no_double_create (c : Cfg) (hwf : c.wf = true) (evs : List EvA) (st : StA)
    (h : acceptAL c StA.init evs = some st) : st.dbl = false ∧ ∀ j, st.entries j ≤ 1 :=
  let hA := AJ.Proofs.LaxA.invAL_reach c hwf evs st h
  ⟨hA.noDbl, hA.entries1⟩

/-- `a` is `j` or one of the schedulers enclosing `j` (at any depth) -/
inductive Anc (c : Cfg) : Nat → Nat → Prop
  | self (j : Nat) : Anc c j j
  | up {a j : Nat} : Anc c a (c.parent j) → Anc c a j

theorem anc_zero {c : Cfg} (hp0 : c.parent 0 = 0) {a j : Nat} (h : Anc c a j) : j = 0 → a = 0 := by
  induction h with
  | self => exact id
  | up _ ih => intro hj; subst hj; exact ih hp0

/-- `ancestors_requirements_first` with the only part of well-formedness that is needed: the top-level scheduler is
    its own parent (false without: `badCfg`, Gap1.lean) -/
theorem ancestors_requirements_first_p0 (c : Cfg) (hp0 : c.parent 0 = 0) (evs : List EvA) (j : Nat) (st : StA)
    (h : acceptAL c StA.init (evs ++ [.grant j]) = some st) :
    ∀ a, Anc c a j → a ≠ 0 → ∀ r ∈ c.req a, finishedIn c evs r = true := by
  intro a hanc
  induction hanc generalizing evs st with
  | self => intro _; exact AJ.Proofs.LaxA.requirements_first c evs _ st h
  | @up j hanc ih =>
    intro ha r hr
    -- the run of the scheduler of `j` began earlier in the history: apply the statement to that prefix
    obtain ⟨e, he, hb⟩ := List.any_eq_true.1 (AJ.Proofs.LaxA.parent_first c evs j st h)
    obtain ⟨l1, l2, rfl⟩ := List.append_of_mem he
    cases e with
    | grant k =>
      obtain rfl : k = c.parent j := by simpa [begins] using hb
      obtain ⟨st1, h1, _⟩ := (isRunAL c).append_some.1
        (show acceptAL c StA.init ((l1 ++ [.grant (c.parent j)]) ++ (l2 ++ [.grant j])) = some st by simpa using h)
      simp [finishedIn, List.any_append, show l1.any _ = true from ih l1 st1 h1 ha r hr]
    | runBegin => exact absurd (anc_zero hp0 hanc (by simpa [begins] using hb)) ha
    | _ => simp [begins] at hb

/-- C01 (nested clauses, any depth): in a well-formed tree, when the body of `j` begins, everything required by `j`
    and by each scheduler enclosing `j` has finished — "no job inside a nested scheduler begins before everything that
    scheduler requires finished" -/
theorem ancestors_requirements_first (c : Cfg) (hwf : c.wf = true) (evs : List EvA) (j : Nat) (st : StA)
    (h : acceptAL c StA.init (evs ++ [.grant j]) = some st) :
    ∀ a, Anc c a j → a ≠ 0 → ∀ r ∈ c.req a, finishedIn c evs r = true :=
  ancestors_requirements_first_p0 c (CoreA.wf_of hwf).parent0 evs j st h

end AJ.Proofs.Gap1
