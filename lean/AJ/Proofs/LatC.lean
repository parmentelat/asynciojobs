/-
  C05 / C08 / C09 "at that same instant", layer B, history form: the step by which a run LEAVES ITS MAIN LOOP — and
  calls `cancel()` on every job still queued or running (`ExitB.exit_cancels_all`) — is separated by no `tick` from
  its cause.  What the cause is, reason by reason: `ExitCause`.
-/
import AJ.Proofs.LatB
namespace AJ.Proofs.LatC
open AJ.Run AJ.Full AJ.Proofs.CoreB AJ.Proofs.ProgB AJ.Proofs.BoundB AJ.Proofs.LatB

/-- the event, occurring in state `st`, is the end of the body of job `k` (it returned or raised), or the end of the
    run of nested scheduler `k`: `grant k` for an empty scheduler, `tidyReturn k` when `k` has already shut down, the
    return of its inline shutdown (`sdWaitReturn k` / `sdTidyReturn k`) -/
def jobEnds (c : Cfg) (st : StB) (k : Nat) : EvB → Bool
  | .runBegin => k == 0 && (c.children 0).isEmpty
  | .bodyEnd j _ => j == k
  | .grant j => j == k && c.isSched k && (c.children k).isEmpty
  | .tidyReturn j _ => j == k && st.didSd k
  | .sdWaitReturn j _ => j == k && st.bc k == .bwait .inline
  | .sdTidyReturn j _ => j == k && st.bc k == .btidy .inline
  | _ => false

/-- the step calls `cancel()` on the task of `s`: the enclosing scheduler leaves its own main loop or, for the top-level
    scheduler `s = 0`, the outside world cancels (`extCancel`) -/
def cancelsTask (c : Cfg) (s : Nat) (st : StB) (e : EvB) : Bool :=
  !st.a.creq s && (match stepB c st e with | some st' => st'.a.creq s | none => false)

theorem jobEnds_of_finishes {c : Cfg} {st : StB} {e : EvB} {ea : EvA} {k : Nat} (hp : ProjA c st e ea)
    (hf : finishes c k ea = true) : jobEnds c st k e = true := by
  have fin : ∀ s r, finishes c k (.finish s r) = true → s = k := by
    intro s r h; cases r <;> simp [finishes] at h; exact h
  cases hp
  case runBegin => simpa [finishes, jobEnds] using hf
  case grant j => simpa [finishes, jobEnds] using hf
  case bodyEnd j ok => exact hf
  case tidyFinish s pick x r hpc hsd hv => cases fin s r hf; simp [jobEnds, hsd]
  case sdWaitInline s pick x r hpc hbc hv => cases fin s r hf; simp [jobEnds, hbc]
  case sdTidyInline s pick x r hpc hbc hv => cases fin s r hf; simp [jobEnds, hbc]
  all_goals cases hf

theorem done_back (c : Cfg) (st st' : StB) (e : EvB) (h : stepB c st e = some st') (k : Nat)
    (hw : jobEnds c st k e = false) (hd : (st'.a.ph k).isDone = true) : (st.a.ph k).isDone = true := by
  rcases (StepB.of_stepB h).proj with heq | ⟨ea, hp, ha⟩
  · rw [← heq]; exact hd
  · have := HistA.step_isDone ha k
    simp only [isDone] at this
    rw [this, Bool.or_eq_true] at hd
    rcases hd with hd | hd
    · exact hd
    · rw [jobEnds_of_finishes hp hd] at hw; cases hw

/-- an event satisfying `C` in the state in which it occurs, and no `tick` after it -/
def CausedAt (c : Cfg) (evs : List EvB) (C : StB → EvB → Bool) : Prop :=
  ∃ a e0 b sta, evs = a ++ e0 :: b ∧ acceptB c StB.init a = some sta ∧ C sta e0 = true ∧ ∀ x ∈ b, isTick x = false

theorem last_cause (c : Cfg) (C : StB → EvB → Bool) (P : StB → Prop) (hinit : P StB.init)
    (hquiet : ∀ pre st, acceptB c StB.init pre = some st → quietB c st = true → P st)
    (hstep : ∀ pre st st' e, acceptB c StB.init pre = some st → stepB c st e = some st' → C st e = false →
      P st → P st')
    (evs : List EvB) (st0 : StB) (h0 : acceptB c StB.init evs = some st0) (hnot : ¬ P st0) :
    CausedAt c evs C :=
  ((isRunB c).holds_or_caused isTick C P hinit
    (fun pre st _ _ hpre hs ht => hquiet pre st hpre ((StepB.of_stepB hs).quiet_of_isTick ht))
    (fun pre st e st' hpre hs => hstep pre st st' e hpre hs) h0).resolve_left hnot

/-- `hnew`: the run has not reacted to the end of `k` yet — the main wait has not handed it over, or the reaction to it
    is pending -/
theorem ended_no_latency (c : Cfg) (hwf : c.wf = true) (evs : List EvB) (s k : Nat) (st0 : StB)
    (h0 : acceptB c StB.init evs = some st0) (hl : st0.pcB s = .loop) (hkc : k ∈ c.children s)
    (hdone : (st0.a.ph k).isDone = true) (hnew : st0.a.deliv k = false ∨ k ∈ rxD st0 s) :
    CausedAt c evs (fun st e => jobEnds c st k e) := by
  let P : StB → Prop := fun st =>
    (st.pcB s ≠ .loop ∧ st.pcB s ≠ .notBegun) ∨
    ((st.a.ph k).isDone = true → st.a.deliv k = true ∧ k ∉ rxD st s)
  apply last_cause c (fun st e => jobEnds c st k e) P
  · exact Or.inr (by simp [StB.init, StA.init, Ph.isDone])
  · intro pre st hpre hq
    have hB := invB_reach c hwf pre st hpre
    by_cases hpc : st.pcB s = .loop
    · -- quiet: no reaction is pending and every finished job has been handed over
      obtain ⟨hrx, hds⟩ := (stuck_of_quiet hB hq s).loop hpc
      exact Or.inr fun hd => ⟨Run.deliv_of_doneSet_nil hds hkc hd, by simp [rxD, hrx]⟩
    by_cases hnb : st.pcB s = .notBegun
    · refine Or.inr fun hd => ?_
      rw [(invA_of_reachB c hwf pre st hpre).childrenIdle ((hB.pcNotBegun s).1 hnb) k hkc] at hd
      cases hd
    · exact Or.inl ⟨hpc, hnb⟩
  · intro pre st st' e hpre hstep hC hP
    have hA := invA_of_reachB c hwf pre st hpre
    have hB := invB_reach c hwf pre st hpre
    rcases hP with ⟨h1, h2⟩ | hr
    · exact Or.inl (ExitB.loop_left_for_good c st st' e s hA hB hstep h1 h2)
    · refine Or.inr fun hd' => ?_
      obtain ⟨h1, h2⟩ := hr (done_back c st st' e hstep k hC hd')
      refine ⟨(StepB.of_stepB hstep).deliv_mono h1, fun hk' => ?_⟩
      -- a job enters the `done` set being reacted to only if it had not been handed over yet
      unfold rxD at h2 hk'
      rcases (StepB.of_stepB hstep).proj with heq | ⟨ea, _, ha⟩
      · rw [heq] at hk'; exact h2 hk'
      · rcases rx_cases ha s with h3 | h3 | ⟨_, _, _, h3⟩ <;> rw [h3] at hk'
        · exact h2 hk'
        · cases hk'
        · rw [(Run.mem_doneSet.1 hk').2.2] at h1; cases h1
  · exact h0
  · rintro (⟨h1, _⟩ | hr)
    · exact h1 hl
    · obtain ⟨h1, h2⟩ := hr hdone
      rcases hnew with h | h
      · rw [h1] at h; cases h
      · exact h2 h

theorem reacted_no_latency (c : Cfg) (hwf : c.wf = true) (evs : List EvB) (s : Nat) (st0 : StB)
    (h0 : acceptB c StB.init evs = some st0) (hl : st0.pcB s = .loop) (D : List Nat) (hD : st0.a.rx s = some D)
    (k : Nat) (hk : k ∈ D) :
    k ∈ c.children s ∧ (st0.a.ph k).isDone = true ∧ CausedAt c evs (fun st e => jobEnds c st k e) := by
  have hA0 := invA_of_reachB c hwf evs st0 h0
  have hB0 := invB_reach c hwf evs st0 h0
  have hkc : k ∈ c.children s := by
    obtain ⟨q, hq⟩ := hB0.rxSub s D hD
    rw [hq] at hk
    exact (List.mem_filter.1 hk).1
  have hdone : (st0.a.ph k).isDone = true :=
    (hA0.delivFin k ((hA0.rxLoop s D hD).2 k hk)).resolve_right (hB0.loopClean s hl k hkc).2
  exact ⟨hkc, hdone, ended_no_latency c hwf evs s k st0 h0 hl hkc hdone (Or.inr (by simp [rxD, hD, hk]))⟩

theorem cancel_no_latency (c : Cfg) (hwf : c.wf = true) (evs : List EvB) (s : Nat) (st0 st : StB)
    (h0 : acceptB c StB.init evs = some st0) (h1 : stepB c st0 (.cancelArrive s) = some st) :
    CausedAt c evs (cancelsTask c s) := by
  obtain ⟨hsn, hsch, hg⟩ := (StepB.of_stepB h1).cancelArrive_inv
  let P : StB → Prop := fun st => ¬ (st.a.ph s = .running ∧ st.a.creq s = true ∧ st.carrived s = false)
  apply last_cause c (cancelsTask c s) P
  · intro h; simp [StB.init, StA.init] at h
  · intro pre st hpre hq
    exact fun h => ((quietB_iff c st).1 hq s hsn).q2 ⟨hsch, h⟩
  · intro pre st st' e hpre hstep hC hP ⟨hr', hc', ha'⟩
    have hS := StepB.of_stepB hstep
    have hcs : st.a.creq s = true := by simpa [cancelsTask, hstep, hc'] using hC
    refine hP ⟨?_, hcs, ?_⟩
    · -- a task on which a request stands does not begin to run
      rcases hS.proj with heq | ⟨ea, _, ha⟩
      · rw [← heq]; exact hr'
      rcases ph_running ha hr' with h1 | ⟨_, _, h1⟩ | ⟨_, _, h1⟩
      · exact h1
      · rw [h1] at hcs; cases hcs
      · rw [(invA_of_reachB c hwf pre st hpre).creqOff h1] at hcs; cases hcs
    · rcases carrived_cases hS s with h1 | ⟨_, _, h1, _⟩
      · rw [← h1]; exact ha'
      · rw [ha'] at h1; cases h1
  · exact h0
  · exact fun hP => hP hg

/-- the last conjunct: the instant `begin + T` is reached by the last `tick` of the history, not before -/
theorem expiry_at_deadline (c : Cfg) (hwf : c.wf = true) (evs : List EvB) (s : Nat) (st0 : StB)
    (h0 : acceptB c StB.init evs = some st0) (hl : st0.pcB s = .loop)
    (hex : expired (st0.deadline s) st0.a.now = true) :
    ∃ T, c.timeout s = some T ∧ st0.a.now = st0.tbegin s + T ∧
      ∀ a d b sta, evs = a ++ .tick d :: b → acceptB c StB.init a = some sta → (∀ x ∈ b, isTick x = false) →
        sta.a.now < st0.tbegin s + T ∧ sta.a.now + d = st0.tbegin s + T := by
  have hB := invB_reach c hwf evs st0 h0
  have hde := hB.deadlineEq s hl
  cases hT : c.timeout s with
  | none => rw [hT] at hde; simp [hde, expired] at hex
  | some T =>
    rw [hT] at hde
    simp only [Option.map_some] at hde
    have hle : st0.tbegin s + T ≤ st0.a.now := by simpa [hde, expired] using hex
    have hge := (hB.deadlineGe s _ hl hde).1
    have hnow : st0.a.now = st0.tbegin s + T := by omega
    refine ⟨T, rfl, hnow, ?_⟩
    intro a d b sta hsp ha hb
    subst hsp
    obtain ⟨sta', ha', h2⟩ := (isRunB c).append_some.1 h0
    rw [ha] at ha'; cases ha'
    obtain ⟨stb, hs, h3⟩ := (isRunB c).cons_some.1 h2
    obtain ⟨_, hd, rfl, _⟩ := (StepB.of_stepB hs).tick_inv
    have hc := now_const h3 hb
    simp only at hc
    omega

/-- C08 "at that same instant": `timeoutFire s` occurs exactly at the instant `begin + T`, reached by the last `tick` of
    the history: the expiry is noticed at the first instant at which it is due -/
theorem fire_at_deadline (c : Cfg) (hwf : c.wf = true) (evs : List EvB) (s : Nat) (st0 st : StB)
    (h0 : acceptB c StB.init evs = some st0) (h1 : stepB c st0 (.timeoutFire s) = some st) :
    ∃ T, c.timeout s = some T ∧ st0.a.now = st0.tbegin s + T ∧
      ∀ a d b sta, evs = a ++ .tick d :: b → acceptB c StB.init a = some sta → (∀ x ∈ b, isTick x = false) →
        sta.a.now < st0.tbegin s + T ∧ sta.a.now + d = st0.tbegin s + T := by
  cases StepB.of_stepB h1
  case timeoutFire hpc hcp hrx hD hexp ha => exact expiry_at_deadline c hwf evs s st0 h0 hpc hexp

/-- what caused the run of `s` to leave its main loop by event `e` in state `st0` (reached by `evs`), for each exit
    reason, and that no time passed since:
    * critical: `e` is the reaction to a `done` set containing a critical job that raised;
    * success: `e` is the reaction that brings the count of reported regular jobs to their number;
    * timeout: the clock reads `begin + T` exactly, an instant not yet reached before the last `tick`, and `e` is
      the expiry event — or a reaction that finds no critical failure and does not complete the regular jobs
      (completions reported in the very instant of the deadline);
    * cancelled: `e` is the delivery of the cancellation, requested with no `tick` since;
    * crashed: `e` is the failure of the orchestration, in place of a reaction;
    in the reaction cases every job of the (non-empty) reacted set ended — its body, or its nested run — with no
    `tick` since -/
def ExitCause (c : Cfg) (evs : List EvB) (e : EvB) (s : Nat) (st0 : StB) : Exit → Prop
  | .critical => e = .react s ∧ ∃ D, st0.a.rx s = some D ∧
      (∃ k ∈ D, c.critical k = true ∧ ∃ ex, st0.a.ph k = .done (.exc ex)) ∧
      ∀ k ∈ D, k ∈ c.children s ∧ (st0.a.ph k).isDone = true ∧ CausedAt c evs (fun st e => jobEnds c st k e)
  | .success => e = .react s ∧ ∃ D, st0.a.rx s = some D ∧ D ≠ [] ∧ critIn c st0.a D = false ∧
      st0.nbDone s + (D.filter fun d => !c.forever d).length = nbFinite c s ∧
      ∀ k ∈ D, k ∈ c.children s ∧ (st0.a.ph k).isDone = true ∧ CausedAt c evs (fun st e => jobEnds c st k e)
  | .timeout =>
      (∃ T, c.timeout s = some T ∧ st0.a.now = st0.tbegin s + T ∧
        ∀ a d b sta, evs = a ++ .tick d :: b → acceptB c StB.init a = some sta → (∀ x ∈ b, isTick x = false) →
          sta.a.now < st0.tbegin s + T ∧ sta.a.now + d = st0.tbegin s + T) ∧
      (e = .timeoutFire s ∨
       (e = .react s ∧ ∃ D, st0.a.rx s = some D ∧ D ≠ [] ∧ critIn c st0.a D = false ∧
          st0.nbDone s + (D.filter fun d => !c.forever d).length ≠ nbFinite c s ∧
          ∀ k ∈ D, k ∈ c.children s ∧ (st0.a.ph k).isDone = true ∧ CausedAt c evs (fun st e => jobEnds c st k e)))
  | .cancelled => e = .cancelArrive s ∧ CausedAt c evs (cancelsTask c s)
  | .crashed => e = .orchFail s ∧ ∃ D, st0.a.rx s = some D ∧ D ≠ [] ∧
      ∀ k ∈ D, k ∈ c.children s ∧ (st0.a.ph k).isDone = true ∧ CausedAt c evs (fun st e => jobEnds c st k e)

/-- C05 / C08 / C09 "at that same instant" (1): in every accepted history, the step by which a run leaves its main
    loop (for reason `x`) happens with no passing of time since its cause -/
theorem exit_no_latency (c : Cfg) (hwf : c.wf = true) (evs : List EvB) (e : EvB) (s : Nat) (st0 st : StB) (x : Exit)
    (h0 : acceptB c StB.init evs = some st0) (h1 : stepB c st0 e = some st)
    (hloop : st0.pcB s = .loop) (hx : st.pcB s = .tidy x) : ExitCause c evs e s st0 x := by
  have hr := ExitB.exit_reason c st0 st e s x (invB_reach c hwf evs st0 h0) h1 hloop hx
  have ended := fun D hD k hk => reacted_no_latency c hwf evs s st0 h0 hloop D hD k hk
  have nonempty := fun D hD => rx_nonempty c evs st0 h0 s D hD
  cases x with
  | critical =>
    obtain ⟨he, D, hD, hcrit⟩ := hr
    exact ⟨he, D, hD, critIn_iff.1 hcrit, ended D hD⟩
  | success =>
    obtain ⟨he, D, hD, hcrit, hcnt⟩ := hr
    exact ⟨he, D, hD, nonempty D hD, hcrit, hcnt, ended D hD⟩
  | timeout =>
    obtain ⟨dl, hdl, hle, hr⟩ := hr
    refine ⟨expiry_at_deadline c hwf evs s st0 h0 hloop (by simp [expired, hdl, hle]), ?_⟩
    rcases hr with ⟨he, _⟩ | ⟨he, D, hD, hcrit, hcnt⟩
    · exact Or.inl he
    · exact Or.inr ⟨he, D, hD, nonempty D hD, hcrit, hcnt, ended D hD⟩
  | cancelled =>
    subst hr
    exact ⟨rfl, cancel_no_latency c hwf evs s st0 st h0 h1⟩
  | crashed =>
    obtain ⟨he, D, hD⟩ := hr
    exact ⟨he, D, hD, nonempty D hD, ended D hD⟩

/-- C08 "at that same instant": the reaction that takes the timeout exit (a completion reported in the very instant of
    the deadline) occurs exactly at the instant `begin + T` too, not later -/
theorem react_timeout_at_deadline (c : Cfg) (hwf : c.wf = true) (evs : List EvB) (s : Nat) (st0 st : StB)
    (h0 : acceptB c StB.init evs = some st0) (h1 : stepB c st0 (.react s) = some st)
    (hx : st.pcB s = .tidy .timeout) :
    ∃ T, c.timeout s = some T ∧ st0.a.now = st0.tbegin s + T ∧
      ∀ a d b sta, evs = a ++ .tick d :: b → acceptB c StB.init a = some sta → (∀ x ∈ b, isTick x = false) →
        sta.a.now < st0.tbegin s + T ∧ sta.a.now + d = st0.tbegin s + T :=
  (exit_no_latency c hwf evs (.react s) s st0 st .timeout h0 h1 (by cases StepB.of_stepB h1 <;> assumption) hx).1

/-- C05 / C08 / C09 "at that same instant" (2): that step calls `cancel()` on every job of the run that is still queued
    or running, and starts nothing: every unfinished job is cancelled at the very instant of the cause -/
theorem exit_cancels_at_once (c : Cfg) (hwf : c.wf = true) (evs : List EvB) (e : EvB) (s : Nat) (st0 st : StB)
    (h0 : acceptB c StB.init evs = some st0) (h1 : stepB c st0 e = some st)
    (hloop : st0.pcB s = .loop) (hleft : st.pcB s ≠ .loop) :
    ∃ x, st.pcB s = .tidy x ∧ ExitCause c evs e s st0 x ∧
      (∀ k ∈ c.children s, (st0.a.ph k).live = true → st.a.creq k = true) ∧
      (∀ k, st.a.ph k = st0.a.ph k) := by
  have hB := invB_reach c hwf evs st0 h0
  obtain ⟨⟨x, hx⟩, hc, hp⟩ := ExitB.exit_cancels_all c st0 st e s hB h1 hloop hleft
  exact ⟨x, hx, exit_no_latency c hwf evs e s st0 st x h0 h1 hloop hx, hc, hp⟩

/- A top-level scheduler with two atomic jobs `1` and `2`, both started at once; three time units pass. -/

def exCfg (crit1 forever2 : Bool) (tmo : Option Nat) : Cfg :=
  { n := 3, parent := fun _ => 0, isSched := fun j => j == 0, req := fun _ => [],
    critical := fun j => crit1 && j == 1, forever := fun j => forever2 && j == 2, window := fun _ => 0,
    timeout := fun j => if j = 0 then tmo else none, sdTimeout := fun _ => none, topPure := true }

/-- `ExitCause` is not decidable: the examples `decide` this check and `exApply` applies `exit_cancels_at_once` to it -/
def exCheck (c : Cfg) (evs : List EvB) (e : EvB) (x : Exit) : Bool :=
  match acceptB c StB.init evs with
  | none => false
  | some st0 =>
    match stepB c st0 e with
    | none => false
    | some st =>
      decide (st0.pcB 0 = .loop) && decide (st.pcB 0 = .tidy x) && decide (st0.a.ph 2 = .running) &&
      !st0.a.creq 2 && st.a.creq 2

theorem exApply (c : Cfg) (hwf : c.wf = true) (evs : List EvB) (e : EvB) (x : Exit) (h : exCheck c evs e x = true) :
    ∃ st0 st, acceptB c StB.init evs = some st0 ∧ stepB c st0 e = some st ∧ st.pcB 0 = .tidy x ∧
      ExitCause c evs e 0 st0 x ∧ st0.a.creq 2 = false ∧ st.a.creq 2 = true := by
  unfold exCheck at h
  split at h
  · cases h
  · rename_i st0 h0
    split at h
    · cases h
    · rename_i st h1
      simp only [Bool.and_eq_true, decide_eq_true_eq, Bool.not_eq_true'] at h
      obtain ⟨⟨⟨⟨hl, hx⟩, _⟩, hc0⟩, hc⟩ := h
      obtain ⟨x', hx', hcause, _, _⟩ := exit_cancels_at_once c hwf evs e 0 st0 st h0 h1 hl (by simp [hx])
      rw [hx] at hx'; cases hx'
      exact ⟨st0, st, h0, h1, hx, hcause, hc0, hc⟩

/-- critical case: the reaction that aborts the run and cancels job `2` comes with no `tick` after `bodyEnd 1 false` -/
def exCritEvs : List EvB := [.runBegin, .grant 1, .grant 2, .tick 3, .bodyEnd 1 false, .waitReturn 0]

example : ∃ st0 st, acceptB (exCfg true false none) StB.init exCritEvs = some st0 ∧
    stepB (exCfg true false none) st0 (.react 0) = some st ∧ st.pcB 0 = .tidy .critical ∧
    ExitCause (exCfg true false none) exCritEvs (.react 0) 0 st0 .critical ∧
    st0.a.creq 2 = false ∧ st.a.creq 2 = true :=
  exApply _ (by decide) _ _ _ (by decide)

/-- the split: the cause is the end of job `1`, the tick lies before it -/
example : exCritEvs = [.runBegin, .grant 1, .grant 2, .tick 3] ++ .bodyEnd 1 false :: [.waitReturn 0] ∧
    (acceptB (exCfg true false none) StB.init [.runBegin, .grant 1, .grant 2, .tick 3]).map
      (fun sta => jobEnds (exCfg true false none) sta 1 (.bodyEnd 1 false)) = some true ∧
    isTick (.waitReturn 0) = false ∧
    (acceptB (exCfg true false none) StB.init exCritEvs).map (fun st => (st.a.rx 0, st.a.ph 1)) =
      some (some [1], .done (.exc (.byJob 1))) := by
  refine ⟨rfl, ?_, ?_, ?_⟩ <;> decide

/-- time cannot pass between the end of the critical job and the cancellation of its sibling -/
example : (acceptB (exCfg true false none) StB.init [.runBegin, .grant 1, .grant 2, .tick 3, .bodyEnd 1 false, .tick 1]).isNone = true ∧
    (acceptB (exCfg true false none) StB.init (exCritEvs ++ [.tick 1])).isNone = true := by
  constructor <;> decide

/-- success case (`2` is a forever job, `1` the last regular one): the reaction that ends the run and cancels job `2`
    comes with no `tick` after `bodyEnd 1 true` -/
def exSuccEvs : List EvB := [.runBegin, .grant 1, .grant 2, .tick 3, .bodyEnd 1 true, .waitReturn 0]

example : ∃ st0 st, acceptB (exCfg false true none) StB.init exSuccEvs = some st0 ∧
    stepB (exCfg false true none) st0 (.react 0) = some st ∧ st.pcB 0 = .tidy .success ∧
    ExitCause (exCfg false true none) exSuccEvs (.react 0) 0 st0 .success ∧
    st0.a.creq 2 = false ∧ st.a.creq 2 = true :=
  exApply _ (by decide) _ _ _ (by decide)

example : exSuccEvs = [.runBegin, .grant 1, .grant 2, .tick 3] ++ .bodyEnd 1 true :: [.waitReturn 0] ∧
    (acceptB (exCfg false true none) StB.init [.runBegin, .grant 1, .grant 2, .tick 3]).map
      (fun sta => jobEnds (exCfg false true none) sta 1 (.bodyEnd 1 true)) = some true ∧
    (acceptB (exCfg false true none) StB.init (exSuccEvs ++ [.tick 1])).isNone = true := by
  refine ⟨rfl, ?_, ?_⟩ <;> decide

/-- timeout case: `timeout = 3`; the expiry fires at instant 3 = begin + 3, reached by the last tick -/
def exTmoEvs : List EvB := [.runBegin, .grant 1, .grant 2, .tick 3]

example : ∃ st0 st, acceptB (exCfg false false (some 3)) StB.init exTmoEvs = some st0 ∧
    stepB (exCfg false false (some 3)) st0 (.timeoutFire 0) = some st ∧ st.pcB 0 = .tidy .timeout ∧
    ExitCause (exCfg false false (some 3)) exTmoEvs (.timeoutFire 0) 0 st0 .timeout ∧
    st0.a.creq 2 = false ∧ st.a.creq 2 = true :=
  exApply _ (by decide) _ _ _ (by decide)

/-- timeout noticed in a reaction: job `1` returns at instant 3 = begin + 3; the reaction to its completion takes the
    timeout exit and cancels job `2` -/
def exTmoReactEvs : List EvB := [.runBegin, .grant 1, .grant 2, .tick 3, .bodyEnd 1 true, .waitReturn 0]

example : ∃ st0 st, acceptB (exCfg false false (some 3)) StB.init exTmoReactEvs = some st0 ∧
    stepB (exCfg false false (some 3)) st0 (.react 0) = some st ∧ st.pcB 0 = .tidy .timeout ∧
    ExitCause (exCfg false false (some 3)) exTmoReactEvs (.react 0) 0 st0 .timeout ∧
    st0.a.creq 2 = false ∧ st.a.creq 2 = true :=
  exApply _ (by decide) _ _ _ (by decide)

/-- … while the same reaction one instant earlier goes on (nothing is cancelled) -/
example : (acceptB (exCfg false false (some 3)) StB.init
      [.runBegin, .grant 1, .grant 2, .tick 2, .bodyEnd 1 true, .waitReturn 0, .react 0]).map
      (fun st => (st.pcB 0, st.failT 0, st.a.creq 2)) = some (.loop, false, false) ∧
    (acceptB (exCfg false false (some 3)) StB.init (exTmoReactEvs ++ [.react 0])).map
      (fun st => (st.pcB 0, st.failT 0, st.a.creq 2)) = some (.tidy .timeout, true, true) := by
  constructor <;> decide

/-- the expiry cannot fire before instant 3, and the clock cannot go beyond it -/
example : (acceptB (exCfg false false (some 3)) StB.init [.runBegin, .grant 1, .grant 2, .tick 2, .timeoutFire 0]).isNone = true ∧
    (acceptB (exCfg false false (some 3)) StB.init [.runBegin, .grant 1, .grant 2, .tick 4]).isNone = true ∧
    (acceptB (exCfg false false (some 3)) StB.init (exTmoEvs ++ [.tick 1])).isNone = true := by
  refine ⟨?_, ?_, ?_⟩ <;> decide

/-- cancelled case, at the top: the delivery that takes the run out of its loop and cancels job `2` comes with no `tick`
    after the `extCancel` -/
def exCanEvs : List EvB := [.runBegin, .grant 1, .grant 2, .tick 3, .extCancel]

example : ∃ st0 st, acceptB (exCfg false false none) StB.init exCanEvs = some st0 ∧
    stepB (exCfg false false none) st0 (.cancelArrive 0) = some st ∧ st.pcB 0 = .tidy .cancelled ∧
    ExitCause (exCfg false false none) exCanEvs (.cancelArrive 0) 0 st0 .cancelled ∧
    st0.a.creq 2 = false ∧ st.a.creq 2 = true :=
  exApply _ (by decide) _ _ _ (by decide)

/-- the split: the cause is the `extCancel`, the tick lies before it; time cannot pass before the delivery -/
example : exCanEvs = [.runBegin, .grant 1, .grant 2, .tick 3] ++ .extCancel :: [] ∧
    (acceptB (exCfg false false none) StB.init [.runBegin, .grant 1, .grant 2, .tick 3]).map
      (fun sta => cancelsTask (exCfg false false none) 0 sta .extCancel) = some true ∧
    (acceptB (exCfg false false none) StB.init (exCanEvs ++ [.tick 1])).isNone = true := by
  refine ⟨rfl, ?_, ?_⟩ <;> decide

end AJ.Proofs.LatC

namespace AJ.Proofs.Gap1
open AJ.Run AJ.Full AJ.Proofs.CoreB AJ.Proofs.ExitB AJ.Proofs.LatC

/-- C04 / C02 (the `deliv` tie): when a run leaves its main loop with a success although a critical job of it has
    raised, that job had not been reported by the main wait, and it raised in the very instant of the exit (no `tick`
    between the end of its body — or of its nested run — and the exit step) -/
theorem success_unreported_same_instant (c : Cfg) (hwf : c.wf = true) (evs : List EvB) (e : EvB) (s k : Nat)
    (st0 st : StB) (h0 : acceptB c StB.init evs = some st0) (h1 : stepB c st0 e = some st)
    (hloop : st0.pcB s = .loop) (hx : st.pcB s = .tidy .success) (hk : k ∈ c.children s)
    (hc : c.critical k = true) (hex : ∃ ex, st0.a.ph k = .done (.exc ex)) :
    st0.a.deliv k = false ∧ CausedAt c evs (fun st e => jobEnds c st k e) := by
  have hB := invB_reach c hwf evs st0 h0
  obtain ⟨ex, hex⟩ := hex
  have hdl : st0.a.deliv k = false := Bool.eq_false_iff.2 fun hd =>
    (exitMeans_at_exit (x := .success) (invA_of_reachB c hwf evs st0 h0) hB hloop
      (exit_reason c st0 st e s .success hB h1 hloop hx)).2 k hk hc hd ex hex
  exact ⟨hdl, ended_no_latency c hwf evs s k st0 h0 hloop hk (by simp [hex, Ph.isDone]) (Or.inl hdl)⟩

end AJ.Proofs.Gap1
