/-
  C03, liveness under fairness, for infinite runs (arbitrary `Nat`-indexed sequences of accepted events).  The events
  other than `tick` are boundedly many (`bounded_work`), so from some index on only ticks occur; a tick needs a quiet
  state, where an unfinished run has a body or a handler at work (`busy_of_reach`), which a fair environment ends by an
  event that is not a tick.

  The cancellation of the top-level task from outside (`extCancel`) is never *owed*: no fairness hypothesis mentions
  it, so the theorems hold of the runs in which it never happens as well as of those in which it does (at most once,
  `extCancel_once`; the run then ends cancelled, which is still `pcB 0 = .over`).
-/
import AJ.Proofs.FinB
namespace AJ.Proofs.LiveB
open AJ.Run AJ.Full AJ.Proofs.BoundB AJ.Proofs.FinB

structure InfRun (c : Cfg) where
  st : Nat → StB
  ev : Nat → EvB
  init : st 0 = StB.init
  step : ∀ i, stepB c (st i) (ev i) = some (st (i + 1))

/-- the environment is fair to job bodies: a body that is running eventually ends or acknowledges a cancellation -/
def FairBodies {c : Cfg} (r : InfRun c) : Prop :=
  ∀ i j, j < c.n → c.isSched j = false → (r.st i).a.ph j = .running →
    ∃ k, i ≤ k ∧ (r.ev k = .bodyEnd j true ∨ r.ev k = .bodyEnd j false ∨ r.ev k = .cancelAck j)

/-- the environment is fair to shutdown handlers: an active handler eventually ends or acknowledges a cancellation -/
def FairHandlers {c : Cfg} (r : InfRun c) : Prop :=
  ∀ i j, j < c.n → c.isSched j = false → (r.st i).hph j = .hactive →
    ∃ k, i ≤ k ∧ (r.ev k = .hEnd j ∨ r.ev k = .hCancelAck j)

/-- weak fairness to job bodies, relative to the set `fin` of jobs whose body ends by itself: a running body of a job of
    `fin` eventually ends; a running body whose cancellation was requested (whatever the job) eventually ends or
    acknowledges the cancellation -/
def WeakFairBodies {c : Cfg} (fin : Nat → Bool) (r : InfRun c) : Prop :=
  ∀ i j, j < c.n → c.isSched j = false → (r.st i).a.ph j = .running → (fin j = true ∨ (r.st i).a.creq j = true) →
    ∃ k, i ≤ k ∧ (r.ev k = .bodyEnd j true ∨ r.ev k = .bodyEnd j false ∨ r.ev k = .cancelAck j)

theorem fairBodies_iff_weak {c : Cfg} {r : InfRun c} : FairBodies r ↔ WeakFairBodies (fun _ => true) r :=
  ⟨fun hb i j hjn hjs hr _ => hb i j hjn hjs hr, fun hb i j hjn hjs hr => hb i j hjn hjs hr (Or.inl rfl)⟩

theorem prefix_succ {c : Cfg} (r : InfRun c) (n : Nat) :
    (List.range (n + 1)).map r.ev = (List.range n).map r.ev ++ [r.ev n] := by
  rw [List.range_succ, List.map_append]; rfl

theorem prefix_accepted {c : Cfg} (r : InfRun c) (n : Nat) :
    acceptB c StB.init ((List.range n).map r.ev) = some (r.st n) := by
  induction n with
  | zero => simp [acceptB, r.init]
  | succ n ih => rw [prefix_succ]; exact (isRunB c).snoc_some.2 ⟨_, ih, r.step n⟩

theorem mono_of_succ {f : Nat → Nat} (hm : ∀ i, f i ≤ f (i + 1)) : ∀ i j, i ≤ j → f i ≤ f j := by
  intro i j hij
  induction hij with
  | refl => exact Nat.le_refl _
  | step _ ih => exact Nat.le_trans ih (hm _)

theorem eventually_const {f : Nat → Nat} {B : Nat} (hm : ∀ i, f i ≤ f (i + 1)) (hb : ∀ i, f i ≤ B) :
    ∃ N, ∀ i, N ≤ i → f (i + 1) = f i := by
  -- each index at which `f` moves brings it nearer to `B`
  suffices ∀ k M, B - f M < k → ∃ N, ∀ i, N ≤ i → f (i + 1) = f i from this _ 0 (Nat.lt_succ_self _)
  intro k
  induction k with
  | zero => intro M hM; omega
  | succ k ih =>
    intro M hM
    by_cases hex : ∃ i, M ≤ i ∧ f (i + 1) ≠ f i
    · obtain ⟨i, hi, hne⟩ := hex
      have := mono_of_succ hm M i hi
      have := hm i
      have := hb (i + 1)
      exact ih (i + 1) (by omega)
    · exact ⟨M, fun i hi => Classical.byContradiction fun hne => hex ⟨i, hi, hne⟩⟩

/-- C03: from some point on an infinite run only lets time pass (`bounded_work`: at most 16n+16 other events occur) -/
theorem eventually_only_ticks {c : Cfg} (hwf : c.wf = true) (r : InfRun c) :
    ∃ N, ∀ i, N ≤ i → isTick (r.ev i) = true := by
  have hsucc : ∀ i, work ((List.range (i + 1)).map r.ev) =
      work ((List.range i).map r.ev) + (if isTick (r.ev i) = true then 0 else 1) :=
    fun i => by rw [prefix_succ, work_snoc]
  obtain ⟨N, hN⟩ := eventually_const (f := fun i => work ((List.range i).map r.ev)) (B := 16 * c.n + 16)
    (fun i => by rw [hsucc i]; omega)
    (fun i => bounded_work c hwf _ _ (prefix_accepted r i))
  refine ⟨N, fun i hi => Bool.of_not_eq_false fun ht => ?_⟩
  have h1 := hN i hi
  rw [hsucc i, ht] at h1
  simp at h1

theorem exists_tail {c : Cfg} (hwf : c.wf = true) (r : InfRun c) (i0 : Nat) :
    ∃ M, i0 ≤ M ∧ ∀ i, M ≤ i → isTick (r.ev i) = true := by
  obtain ⟨N, hN⟩ := eventually_only_ticks hwf r
  exact ⟨max N i0, Nat.le_max_right _ _, fun i hi => hN i (Nat.le_trans (Nat.le_max_left _ _) hi)⟩

theorem extCancel_once {c : Cfg} (r : InfRun c) {i j : Nat} (hi : r.ev i = .extCancel) (hj : r.ev j = .extCancel) :
    i = j := by
  -- the number of `extCancel` in the prefixes: nondecreasing, at most 1, up by one at each occurrence
  let f : Nat → Nat := fun n => extCount ((List.range n).map r.ev)
  have hsucc : ∀ n, f (n + 1) = f n + (if isExt (r.ev n) = true then 1 else 0) :=
    fun n => by show extCount _ = _; rw [prefix_succ, extCount_snoc]
  have hmono := mono_of_succ (f := f) fun n => by rw [hsucc n]; omega
  have key : ∀ a b, r.ev a = .extCancel → r.ev b = .extCancel → ¬ a < b := by
    intro a b ha hb hab
    have h1 := hsucc a
    have h2 := hsucc b
    rw [ha] at h1; rw [hb] at h2
    simp only [isExt, if_true] at h1 h2
    have := hmono (a + 1) b hab
    have : f (b + 1) ≤ 1 := extCancel_at_most_once c _ _ (prefix_accepted r (b + 1))
    omega
  exact Nat.le_antisymm (Nat.le_of_not_lt (key j i hj hi)) (Nat.le_of_not_lt (key i j hi hj))

def aged (s : StB) (t : Nat) : StB := { s with a := { s.a with now := s.a.now + t } }

theorem aged_aged (s : StB) (t u : Nat) : aged (aged s t) u = aged s (t + u) := by
  simp only [aged, Nat.add_assoc]

theorem begun_later {c : Cfg} (r : InfRun c) {i : Nat} (hb : (r.st i).pcB 0 ≠ .notBegun) :
    ∀ k, i ≤ k → (r.st k).pcB 0 ≠ .notBegun := by
  intro k hk
  induction hk with
  | refl => exact hb
  | step _ ih => exact (StepB.of_stepB (r.step _)).begun 0 ih

theorem exists_tail_begun {c : Cfg} (hwf : c.wf = true) (r : InfRun c) (hbegun : ∃ i, (r.st i).pcB 0 ≠ .notBegun) :
    ∃ M, (∀ i, M ≤ i → isTick (r.ev i) = true) ∧ ∀ i, M ≤ i → (r.st i).pcB 0 ≠ .notBegun :=
  let ⟨i0, hi0⟩ := hbegun
  let ⟨M, hiM, hM⟩ := exists_tail hwf r i0
  ⟨M, hM, fun i hi => begun_later r hi0 i (Nat.le_trans hiM hi)⟩

theorem tick_at {c : Cfg} (r : InfRun c) {i : Nat} (ht : isTick (r.ev i) = true) :
    ∃ d, 0 < d ∧ r.st (i + 1) = aged (r.st i) d := by
  obtain ⟨d, he⟩ := isTick_iff.1 ht
  obtain ⟨_, hd, h, _⟩ := StepB.tick_inv (.of_stepB (he ▸ r.step i))
  exact ⟨d, hd, h⟩

theorem quiet_of_tick {c : Cfg} (r : InfRun c) {i : Nat} (ht : isTick (r.ev i) = true) :
    quietB c (r.st i) = true :=
  (StepB.of_stepB (r.step i)).quiet_of_isTick ht

theorem late_state {c : Cfg} (r : InfRun c) {N : Nat} (hN : ∀ i, N ≤ i → isTick (r.ev i) = true) (t : Nat) :
    ∃ d, t ≤ d ∧ r.st (N + t) = aged (r.st N) d := by
  induction t with
  | zero => exact ⟨0, Nat.le_refl _, rfl⟩
  | succ t ih =>
    obtain ⟨d, hd, ih⟩ := ih
    obtain ⟨d', hd', hs⟩ := tick_at r (hN (N + t) (by omega))
    exact ⟨d + d', by omega, by rw [← Nat.add_assoc, hs, ih, aged_aged]⟩

theorem late_of {c : Cfg} (r : InfRun c) {N : Nat} (hN : ∀ i, N ≤ i → isTick (r.ev i) = true) (P : StB → Prop)
    (hP : ∀ s d, P s → P (aged s d)) (h : P (r.st N)) (i : Nat) (hi : N ≤ i) : P (r.st i) := by
  obtain ⟨d, _, hd⟩ := late_state r hN (i - N)
  rw [show N + (i - N) = i by omega] at hd
  rw [hd]; exact hP _ d h

theorem no_timed_loop_late {c : Cfg} (hwf : c.wf = true) (r : InfRun c) {M : Nat}
    (hM : ∀ i, M ≤ i → isTick (r.ev i) = true) {s T : Nat} (hT : c.timeout s = some T) : (r.st M).pcB s ≠ .loop := by
  intro hl
  obtain ⟨d, hd, h⟩ := late_state r hM ((r.st M).tbegin s + T + 1)
  have h1 := (ExitB.timeout_bounds c hwf _ _ (prefix_accepted r _) s T (by rw [h]; exact hl) hT).2
  rw [h] at h1
  have h2 : (r.st M).a.now + d ≤ (r.st M).tbegin s + T := h1
  omega

theorem nothing_owed_late {c : Cfg} {fin : Nat → Bool} {r : InfRun c} (hb : WeakFairBodies fin r)
    (hh : FairHandlers r) {M : Nat} (hM : ∀ i, M ≤ i → isTick (r.ev i) = true) {j : Nat} (hjn : j < c.n)
    (hjs : c.isSched j = false) :
    ¬ ((r.st M).a.ph j = .running ∧ (fin j = true ∨ (r.st M).a.creq j = true)) ∧ (r.st M).hph j ≠ .hactive := by
  refine ⟨fun ⟨hr, hf⟩ => ?_, fun hr => ?_⟩
  · obtain ⟨k, hk, he⟩ := hb M j hjn hjs hr hf
    have ht := hM k hk
    rcases he with he | he | he <;> rw [he] at ht <;> cases ht
  · obtain ⟨k, hk, he⟩ := hh M j hjn hjs hr
    have ht := hM k hk
    rcases he with he | he <;> rw [he] at ht <;> cases ht

theorem tail_over_or_blocked {c : Cfg} (hwf : c.wf = true) (fin : Nat → Bool) (r : InfRun c)
    (hb : WeakFairBodies fin r) (hh : FairHandlers r) {M : Nat} (hM : ∀ i, M ≤ i → isTick (r.ev i) = true)
    (hbeg : (r.st M).pcB 0 ≠ .notBegun) :
    (r.st M).pcB 0 = .over ∨
    ∃ j, j < c.n ∧ c.isSched j = false ∧ fin j = false ∧ (r.st M).a.ph j = .running ∧ (r.st M).a.creq j = false := by
  by_cases ho : (r.st M).pcB 0 = .over
  · exact Or.inl ho
  · rcases busy_of_reach hwf (prefix_accepted r M) (quiet_of_tick r (hM M (Nat.le_refl _))) hbeg ho with
      ⟨j, hjn, hjs, hr⟩ | ⟨j, hjn, hjs, hr⟩
    · have hno := (nothing_owed_late hb hh hM hjn hjs).1
      exact Or.inr ⟨j, hjn, hjs, Bool.eq_false_iff.2 fun hf => hno ⟨hr, Or.inl hf⟩, hr,
        Bool.eq_false_iff.2 fun hf => hno ⟨hr, Or.inr hf⟩⟩
    · exact absurd hr (nothing_owed_late hb hh hM hjn hjs).2

/-- C03: under weak fairness the top-level run ends, unless some job that never ends by itself is left running,
    un-cancelled, for ever (which the library's contract allows only for trees that are not admissible: a never-ending
    job that is not `forever`, or a scheduler without timeout whose jobs are all never-ending) -/
theorem fair_run_ends_or_blocked {c : Cfg} (hwf : c.wf = true) (fin : Nat → Bool) (r : InfRun c)
    (hbegun : ∃ i, (r.st i).pcB 0 ≠ .notBegun) (hb : WeakFairBodies fin r) (hh : FairHandlers r) :
    (∃ i, (r.st i).pcB 0 = .over) ∨
    (∃ N j, j < c.n ∧ c.isSched j = false ∧ fin j = false ∧
       ∀ i, N ≤ i → (r.st i).a.ph j = .running ∧ (r.st i).a.creq j = false) := by
  obtain ⟨M, hM, hbeg⟩ := exists_tail_begun hwf r hbegun
  rcases tail_over_or_blocked hwf fin r hb hh hM (hbeg M (Nat.le_refl _)) with h | ⟨j, hjn, hjs, hf, hrun⟩
  · exact Or.inl ⟨M, h⟩
  · exact Or.inr ⟨M, j, hjn, hjs, hf,
      late_of r hM (fun s => s.a.ph j = .running ∧ s.a.creq j = false) (fun _ _ h => h) hrun⟩

/-- C03: in a fair infinite run whose top-level `run()` has begun, the top-level run ends, and from then on nothing
    but the passing of time ever happens -/
theorem fair_run_ends_for_good {c : Cfg} (hwf : c.wf = true) (r : InfRun c)
    (hbegun : ∃ i, (r.st i).pcB 0 ≠ .notBegun) (hb : FairBodies r) (hh : FairHandlers r) :
    ∃ N, ∀ i, N ≤ i → (r.st i).pcB 0 = .over ∧ isTick (r.ev i) = true := by
  obtain ⟨M, hM, hbeg⟩ := exists_tail_begun hwf r hbegun
  refine ⟨M, fun i hi => ⟨?_, hM i hi⟩⟩
  rcases tail_over_or_blocked hwf (fun _ => true) r (fairBodies_iff_weak.1 hb) hh (fun k hk => hM k (by omega))
    (hbeg i hi) with h | ⟨_, _, _, hf, _⟩
  · exact h
  · cases hf

/-- C03: in a fair infinite run whose top-level `run()` has begun, the top-level run ends -/
theorem fair_run_ends {c : Cfg} (hwf : c.wf = true) (r : InfRun c)
    (hbegun : ∃ i, (r.st i).pcB 0 ≠ .notBegun) (hb : FairBodies r) (hh : FairHandlers r) :
    ∃ i, (r.st i).pcB 0 = .over :=
  let ⟨N, h⟩ := fair_run_ends_for_good hwf r hbegun hb hh
  ⟨N, (h N (Nat.le_refl _)).1⟩

/-- `fair_run_ends` is the special case `fin = fun _ => true` of `fair_run_ends_or_blocked` -/
theorem fair_run_ends_of_weak {c : Cfg} (hwf : c.wf = true) (r : InfRun c)
    (hbegun : ∃ i, (r.st i).pcB 0 ≠ .notBegun) (hb : FairBodies r) (hh : FairHandlers r) :
    ∃ i, (r.st i).pcB 0 = .over := by
  rcases fair_run_ends_or_blocked hwf (fun _ => true) r hbegun (fairBodies_iff_weak.1 hb) hh with
    h | ⟨_, _, _, _, hf, _⟩
  · exact h
  · cases hf

/-- the guard of a tick reads the clock through the deadlines only, and none is armed (`hdl`) -/
theorem tick_enabled {c : Cfg} {st : StB} (hq : quietB c st = true) (hcalm : Calm c st.a)
    (hdl : ∀ s ∈ List.range c.n, (st.pcB s = .loop → st.deadline s = none) ∧
      ((st.bc s).isWait = true → st.hdeadline s = none))
    {d : Nat} (hd : 0 < d) : stepB c st (.tick d) = some (aged st d) :=
  (StepB.tick hq (fun s hs hl => by rw [(hdl s hs).1 hl]; rfl) (fun s hs hw => by rw [(hdl s hs).2 hw]; rfl)
    hd hcalm).to_stepB

/-- A sequence of states computed from a sequence of events that is `tick 1` from `L` on is a run as soon as the
    events up to `L` (the first of these ticks included) are accepted and no deadline is armed at `L`. -/
theorem lasso_step {c : Cfg} {st : Nat → StB} {ev : Nat → EvB} (L : Nat)
    (hrec : ∀ i, st (i + 1) = (stepB c (st i) (ev i)).getD (st i))
    (hpre : ∀ i, i ≤ L → (stepB c (st i) (ev i)).isSome = true)
    (hev : ∀ i, L ≤ i → ev i = .tick 1)
    (hdl : ∀ s ∈ List.range c.n, ((st L).pcB s = .loop → (st L).deadline s = none) ∧
      (((st L).bc s).isWait = true → (st L).hdeadline s = none)) (i : Nat) :
    stepB c (st i) (ev i) = some (st (i + 1)) := by
  have hsome : ∀ i, (stepB c (st i) (ev i)).isSome = true → stepB c (st i) (ev i) = some (st (i + 1)) := by
    intro i h
    rw [hrec]
    cases hs : stepB c (st i) (ev i) with
    | none => rw [hs] at h; cases h
    | some s => rfl
  by_cases hi : i ≤ L
  · exact hsome i (hpre i hi)
  · -- the tick at `L` is accepted: the state is quiet and calm there, and is the same, later, from then on
    have hL := hsome L (hpre L (Nat.le_refl _))
    rw [hev L (Nat.le_refl _)] at hL
    obtain ⟨hq, _, _, hcalm⟩ := (StepB.of_stepB hL).tick_inv
    have hT : ∀ t, stepB c (aged (st L) t) (.tick 1) = some (aged (st L) (t + 1)) := fun t => by
      rw [tick_enabled (st := aged (st L) t) hq hcalm hdl (Nat.le_refl 1), aged_aged]
    have htail : ∀ t, st (L + t) = aged (st L) t := by
      intro t
      induction t with
      | zero => rfl
      | succ t ih => rw [← Nat.add_assoc, hrec, hev _ (by omega), ih, hT]; rfl
    obtain ⟨t, rfl⟩ : ∃ t, i = L + t := ⟨i - L, by omega⟩
    refine hsome _ ?_
    rw [hev _ (by omega), htail, hT]
    rfl

theorem tick_tail {c : Cfg} {r : InfRun c} {L : Nat} (h : ∀ i, L ≤ i → r.ev i = .tick 1) :
    ∀ i, L ≤ i → isTick (r.ev i) = true := fun i hi => by rw [h i hi]; rfl

def endsBody (j : Nat) : EvB → Bool
  | .bodyEnd k _ | .cancelAck k => k == j
  | _ => false

def endsHandler (j : Nat) : EvB → Bool
  | .hEnd k | .hCancelAck k => k == j
  | _ => false

theorem of_endsBody {j : Nat} {e : EvB} (h : endsBody j e = true) :
    e = .bodyEnd j true ∨ e = .bodyEnd j false ∨ e = .cancelAck j :=
  match e, h with
  | .bodyEnd _ true, h => Or.inl (eq_of_beq h ▸ rfl)
  | .bodyEnd _ false, h => Or.inr (Or.inl (eq_of_beq h ▸ rfl))
  | .cancelAck _, h => Or.inr (Or.inr (eq_of_beq h ▸ rfl))

theorem of_endsHandler {j : Nat} {e : EvB} (h : endsHandler j e = true) : e = .hEnd j ∨ e = .hCancelAck j :=
  match e, h with
  | .hEnd _, h => Or.inl (eq_of_beq h ▸ rfl)
  | .hCancelAck _, h => Or.inr (eq_of_beq h ▸ rfl)

/-- What is owed along a run that only ticks from `L` on: if it is met before `L` whenever it arises up to `L`, it is
    met whenever it arises (a tick changes nothing but the clock: it is not open at `L`, and cannot arise later). -/
theorem owed_of_late {c : Cfg} {r : InfRun c} {L : Nat} (hL : ∀ i, L ≤ i → isTick (r.ev i) = true)
    {O : StB → Prop} {q : EvB → Bool} (hO : ∀ s d, O (aged s d) → O s)
    (hpre : ∀ i, i ≤ L → O (r.st i) → ∃ k, k < L ∧ i ≤ k ∧ q (r.ev k) = true)
    (i : Nat) (hi : O (r.st i)) : ∃ k, i ≤ k ∧ q (r.ev k) = true := by
  by_cases h : i ≤ L
  · obtain ⟨k, _, hk⟩ := hpre i h hi
    exact ⟨k, hk⟩
  · refine absurd hi (late_of r hL (fun s => ¬ O s) (fun s d hn ho => hn (hO s d ho)) (fun hOL => ?_) i (by omega))
    obtain ⟨k, h1, h2, _⟩ := hpre L (Nat.le_refl _) hOL
    omega

theorem weakFair_of_late {c : Cfg} {fin : Nat → Bool} {r : InfRun c} {L : Nat}
    (hL : ∀ i, L ≤ i → isTick (r.ev i) = true)
    (hpre : ∀ j, j < c.n → c.isSched j = false → ∀ i, i ≤ L →
      ((r.st i).a.ph j == .running && (fin j || (r.st i).a.creq j)) = true →
      ∃ k, k < L ∧ i ≤ k ∧ endsBody j (r.ev k) = true) :
    WeakFairBodies fin r := fun i j hj hs hr hf =>
  let ⟨k, hk, he⟩ := owed_of_late hL (O := fun s => (s.a.ph j == .running && (fin j || s.a.creq j)) = true)
    (fun _ _ h => h) (hpre j hj hs) i (by simpa [hr] using hf)
  ⟨k, hk, of_endsBody he⟩

theorem fairHandlers_of_late {c : Cfg} {r : InfRun c} {L : Nat} (hL : ∀ i, L ≤ i → isTick (r.ev i) = true)
    (hpre : ∀ j, j < c.n → c.isSched j = false → ∀ i, i ≤ L → (r.st i).hph j = .hactive →
      ∃ k, k < L ∧ i ≤ k ∧ endsHandler j (r.ev k) = true) :
    FairHandlers r := fun i j hj hs hr =>
  let ⟨k, hk, he⟩ := owed_of_late hL (O := fun s => s.hph j = .hactive) (fun _ _ h => h) (hpre j hj hs) i hr
  ⟨k, hk, of_endsHandler he⟩

/-! ### non-vacuity: a fair infinite run

  Scheduler `0` with one atomic job `1`: the run is over after the nine events of `exEvs`, then time passes for ever. -/

def exCfg : Cfg :=
  { n := 2, parent := fun _ => 0, isSched := fun j => j == 0, req := fun _ => [],
    critical := fun _ => false, forever := fun _ => false, window := fun _ => 0, timeout := fun _ => none,
    sdTimeout := fun _ => none, topPure := true }

def exEvs : List EvB :=
  [.runBegin, .grant 1, .tick 3, .bodyEnd 1 true, .waitReturn 0, .react 0, .tidyReturn 0 0, .hEnd 1, .sdWaitReturn 0 0]

def exEv (i : Nat) : EvB := if h : i < exEvs.length then exEvs[i] else .tick 1

def exSt : Nat → StB
  | 0 => StB.init
  | i + 1 => (stepB exCfg (exSt i) (exEv i)).getD (exSt i)

example : exCfg.wf = true := by decide

example : (acceptB exCfg StB.init exEvs).map (fun st => (st.pcB 0, st.a.now)) = some (.over, 3) := by decide

theorem exEv_late (i : Nat) (h : 9 ≤ i) : exEv i = .tick 1 := dif_neg (Nat.not_lt.2 h)

theorem exSt_step (i : Nat) : stepB exCfg (exSt i) (exEv i) = some (exSt (i + 1)) :=
  lasso_step 9 (fun _ => rfl) (by decide) exEv_late (by decide) i

def exRun : InfRun exCfg := { st := exSt, ev := exEv, init := rfl, step := exSt_step }

theorem exRun_late : ∀ i, 9 ≤ i → isTick (exRun.ev i) = true := tick_tail (r := exRun) exEv_late

theorem exRun_fairBodies : FairBodies exRun :=
  fairBodies_iff_weak.2 (weakFair_of_late exRun_late (by decide))

theorem exRun_fairHandlers : FairHandlers exRun :=
  fairHandlers_of_late exRun_late (by decide)

/-- the fairness hypotheses are not vacuous on this run: at some index a body is running, at some index a handler
    is active -/
example : (exRun.st 2).a.ph 1 = .running ∧ (exRun.st 7).hph 1 = .hactive := by decide

/-- the hypotheses of `fair_run_ends` / `fair_run_ends_for_good` are satisfiable together -/
example : ∃ (c : Cfg) (_ : c.wf = true) (r : InfRun c),
    (∃ i, (r.st i).pcB 0 ≠ .notBegun) ∧ FairBodies r ∧ FairHandlers r :=
  ⟨exCfg, by decide, exRun, ⟨1, by decide⟩, exRun_fairBodies, exRun_fairHandlers⟩

example : ∀ i, 9 ≤ i → (exRun.st i).pcB 0 = .over ∧ isTick (exRun.ev i) = true := fun i hi =>
  ⟨late_of exRun exRun_late (fun s => s.pcB 0 = .over) (fun _ _ h => h) (by decide) i hi, exRun_late i hi⟩

example : ∃ N, ∀ i, N ≤ i → (exRun.st i).pcB 0 = .over ∧ isTick (exRun.ev i) = true :=
  fair_run_ends_for_good (by decide) exRun ⟨1, by decide⟩ exRun_fairBodies exRun_fairHandlers

/-! ### non-vacuity, second run: a never-ending `forever` job, cancelled when the run leaves its loop

  Scheduler `0` with job `1` (finite) and job `2` (`forever`; its body never ends by itself: `fin 2 = false`).  Once `1`
  has ended `co_run` reacts: all finite jobs are done, it leaves the loop and cancels `2`, which acknowledges. -/

def ex2Cfg : Cfg :=
  { n := 3, parent := fun _ => 0, isSched := fun j => j == 0, req := fun _ => [],
    critical := fun _ => false, forever := fun j => j == 2, window := fun _ => 0, timeout := fun _ => none,
    sdTimeout := fun _ => none, topPure := true }

def ex2Fin (j : Nat) : Bool := j == 1

def ex2Evs : List EvB :=
  [.runBegin, .grant 1, .grant 2, .tick 3, .bodyEnd 1 true, .waitReturn 0, .react 0, .cancelAck 2, .tidyReturn 0 0,
   .hEnd 1, .hEnd 2, .sdWaitReturn 0 0]

def ex2Ev (i : Nat) : EvB := if h : i < ex2Evs.length then ex2Evs[i] else .tick 1

def ex2St : Nat → StB
  | 0 => StB.init
  | i + 1 => (stepB ex2Cfg (ex2St i) (ex2Ev i)).getD (ex2St i)

example : ex2Cfg.wf = true := by decide

example : (acceptB ex2Cfg StB.init ex2Evs).map (fun st => (st.pcB 0, st.a.now)) = some (.over, 3) := by decide

theorem ex2Ev_late (i : Nat) (h : 12 ≤ i) : ex2Ev i = .tick 1 := dif_neg (Nat.not_lt.2 h)

theorem ex2St_step (i : Nat) : stepB ex2Cfg (ex2St i) (ex2Ev i) = some (ex2St (i + 1)) :=
  lasso_step 12 (fun _ => rfl) (by decide) ex2Ev_late (by decide) i

def ex2Run : InfRun ex2Cfg := { st := ex2St, ev := ex2Ev, init := rfl, step := ex2St_step }

theorem ex2Run_late : ∀ i, 12 ≤ i → isTick (ex2Run.ev i) = true := tick_tail (r := ex2Run) ex2Ev_late

theorem ex2_cases {j : Nat} (hj : j < ex2Cfg.n) (hs : ex2Cfg.isSched j = false) : j = 1 ∨ j = 2 := by
  have : j < 3 := hj
  have : j ≠ 0 := by rintro rfl; cases hs
  omega

/-- job `1` ends by itself (event 4); job `2` is only owed an end once its cancellation is requested (from state 7) -/
theorem ex2Run_weakFair : WeakFairBodies ex2Fin ex2Run :=
  weakFair_of_late ex2Run_late (by decide)

theorem ex2Run_fairHandlers : FairHandlers ex2Run :=
  fairHandlers_of_late ex2Run_late (by decide)

/-- the run is NOT fair in the strong sense: job `2` runs un-cancelled in states 3–6 and the weak hypothesis asks
    nothing then; `react 0` (event 6) requests its cancellation, which stands in state 7; event 7 is the
    acknowledgement -/
example : (ex2Run.st 3).a.ph 2 = .running ∧ (ex2Run.st 3).a.creq 2 = false ∧ ex2Fin 2 = false ∧
    (ex2Run.st 7).a.ph 2 = .running ∧ (ex2Run.st 7).a.creq 2 = true ∧ ex2Run.ev 7 = .cancelAck 2 := by
  refine ⟨by decide, by decide, rfl, by decide, by decide, rfl⟩

/-- the hypotheses of `fair_run_ends_or_blocked` hold of this run, with a job outside `fin` -/
example : ∃ (c : Cfg) (_ : c.wf = true) (fin : Nat → Bool) (r : InfRun c),
    (∃ j, j < c.n ∧ c.isSched j = false ∧ fin j = false) ∧
    (∃ i, (r.st i).pcB 0 ≠ .notBegun) ∧ WeakFairBodies fin r ∧ FairHandlers r :=
  ⟨ex2Cfg, by decide, ex2Fin, ex2Run, ⟨2, by decide, rfl, rfl⟩, ⟨1, by decide⟩, ex2Run_weakFair, ex2Run_fairHandlers⟩

/-- … and of the two alternatives of its conclusion it is the first that holds: the run is over at index 12 -/
example : (ex2Run.st 12).pcB 0 = .over := by decide

/-- … the second one does not: nobody is left running for ever -/
example : ¬ ∃ N j, j < ex2Cfg.n ∧ ex2Cfg.isSched j = false ∧ ex2Fin j = false ∧
    ∀ i, N ≤ i → (ex2Run.st i).a.ph j = .running ∧ (ex2Run.st i).a.creq j = false := by
  rintro ⟨N, j, hj, _, _, hall⟩
  exact late_of ex2Run ex2Run_late (fun s => ∀ j, j < 3 → s.a.ph j ≠ .running) (fun _ _ h => h) (by decide)
    (12 + N) (by omega) j hj (hall (12 + N) (by omega)).1

/-! ### the second alternative does occur: the only job never ends, the scheduler has no timeout

  `exCfg` again (scheduler `0`, job `1`), `fin = fun _ => false`: `run()` begins, the job starts, then time passes for
  ever.  The run is weakly fair (no cancellation is ever requested, no handler ever active) and never over. -/

def ex3Ev (i : Nat) : EvB := if i = 0 then .runBegin else if i = 1 then .grant 1 else .tick 1

def ex3St : Nat → StB
  | 0 => StB.init
  | i + 1 => (stepB exCfg (ex3St i) (ex3Ev i)).getD (ex3St i)

theorem ex3Ev_late (i : Nat) (h : 2 ≤ i) : ex3Ev i = .tick 1 := by
  unfold ex3Ev
  rw [if_neg (by omega), if_neg (by omega)]

theorem ex3St_step (i : Nat) : stepB exCfg (ex3St i) (ex3Ev i) = some (ex3St (i + 1)) :=
  lasso_step 2 (fun _ => rfl) (by decide) ex3Ev_late (by decide) i

def ex3Run : InfRun exCfg := { st := ex3St, ev := ex3Ev, init := rfl, step := ex3St_step }

theorem ex3Run_late : ∀ i, 2 ≤ i → isTick (ex3Run.ev i) = true := tick_tail (r := ex3Run) ex3Ev_late

theorem ex3_state (i : Nat) : (ex3Run.st i).a.creq 1 = false ∧ (ex3Run.st i).hph 1 = .hnone ∧
    (ex3Run.st i).pcB 0 ≠ .over ∧ (2 ≤ i → (ex3Run.st i).a.ph 1 = .running) := by
  by_cases h : i < 2
  · have : ∀ i, i < 2 → (ex3St i).a.creq 1 = false ∧ (ex3St i).hph 1 = .hnone ∧ (ex3St i).pcB 0 ≠ .over := by
      decide
    obtain ⟨h1, h2, h3⟩ := this i h
    exact ⟨h1, h2, h3, fun h' => by omega⟩
  · obtain ⟨h1, h2, h3, h4⟩ := late_of ex3Run ex3Run_late
      (fun s => s.a.creq 1 = false ∧ s.hph 1 = .hnone ∧ s.pcB 0 ≠ .over ∧ s.a.ph 1 = .running) (fun _ _ h => h)
      (by decide) i (by omega)
    exact ⟨h1, h2, h3, fun _ => h4⟩

theorem ex_cases {j : Nat} (hj : j < exCfg.n) (hs : exCfg.isSched j = false) : j = 1 := by
  have : j < 2 := hj
  have : j ≠ 0 := by rintro rfl; cases hs
  omega

/-- the first alternative of `fair_run_ends_or_blocked` fails and the second holds (job `1`, from index 2 on): the
    disjunction cannot be dropped -/
example : WeakFairBodies (fun _ => false) ex3Run ∧ FairHandlers ex3Run ∧ (ex3Run.st 1).pcB 0 ≠ .notBegun ∧
    (¬ ∃ i, (ex3Run.st i).pcB 0 = .over) ∧
    (∀ i, 2 ≤ i → (ex3Run.st i).a.ph 1 = .running ∧ (ex3Run.st i).a.creq 1 = false) := by
  refine ⟨?_, ?_, by decide, ?_, ?_⟩
  · intro i j hj hs hr hf
    have := ex_cases hj hs; subst this
    rcases hf with hf | hf
    · cases hf
    · rw [(ex3_state i).1] at hf; cases hf
  · intro i j hj hs hr
    have := ex_cases hj hs; subst this
    rw [(ex3_state i).2.1] at hr; cases hr
  · rintro ⟨i, hi⟩
    exact (ex3_state i).2.2.1 hi
  · intro i hi
    exact ⟨(ex3_state i).2.2.2 hi, (ex3_state i).1⟩

end AJ.Proofs.LiveB

namespace AJ.Proofs.Gap1
open AJ.Run AJ.Proofs.LiveB

/-- C03, second sentence: a top-level scheduler with a timeout terminates whatever its jobs do, provided they honour
    cancellation.  No admissibility hypothesis: job bodies may never end by themselves (`fin = fun _ => false`: the
    environment only owes an end — or the acknowledgement — to a body whose cancellation was requested), nested
    schedulers may have no timeout, windows may be filled by never-ending jobs. -/
theorem timeout_run_ends {c : Cfg} (hwf : c.wf = true) (r : InfRun c) (T : Nat) (hT : c.timeout 0 = some T)
    (hbegun : ∃ i, (r.st i).pcB 0 ≠ .notBegun)
    (hb : WeakFairBodies (fun _ => false) r) (hh : FairHandlers r) : ∃ i, (r.st i).pcB 0 = .over := by
  obtain ⟨M, hM, hbeg⟩ := exists_tail_begun hwf r hbegun
  rcases tail_over_or_blocked hwf _ r hb hh hM (hbeg M (Nat.le_refl _)) with h | ⟨j, hjn, hjs, _, hr, hcr⟩
  · exact ⟨M, h⟩
  · -- a body left executing, un-cancelled, keeps the top-level run in its loop: but that run has a timeout
    exact absurd (live_top hwf (prefix_accepted r M) (quiet_of_tick r (hM M (Nat.le_refl _))) j
      ((CoreA.wf_of hwf).pos_of_atomic hjs) hjn (by simp [hr, Ph.live]) hcr) (no_timed_loop_late hwf r hM hT)

set_option linter.unusedVariables false in
/-- C03, second sentence, per scheduler: in every infinite run, a scheduler (nested or not) with a timeout that is
    waiting in its main loop eventually leaves it — whatever its jobs do.  (That the clock has not passed `begin + T`
    as long as it is in its loop is `ExitB.timeout_bounds`.) -/
theorem timeout_loop_left {c : Cfg} (hwf : c.wf = true) (r : InfRun c) (s T : Nat) (hT : c.timeout s = some T)
    (i : Nat) (hl : (r.st i).pcB s = .loop) : ∃ k, i ≤ k ∧ (r.st k).pcB s ≠ .loop :=
  let ⟨M, hiM, hM⟩ := exists_tail hwf r i
  ⟨M, hiM, no_timed_loop_late hwf r hM hT⟩

end AJ.Proofs.Gap1
