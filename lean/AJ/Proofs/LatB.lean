/-
  C10 (d) in history form, layer B: the event that takes `pcB s` to `.over` is separated by no `tick` from the last
  "waking" event of `s` (`wakesAt`).  Between two waking events the run of `s` can only make the steps that were already
  enabled: `Stuck` ("no step of its own is enabled") is kept by non-waking events, holds of every run in a quiet state,
  where alone the clock advances, and a `Stuck` run does not end.  `stuck_of_quiet` read forwards gives the theorems of
  `Gap1`, `Gap2` (C05, C08, C09).
-/
import AJ.Proofs.NestB
namespace AJ.Proofs.LatB
open AJ.Run AJ.Full AJ.Proofs.CoreB AJ.Proofs.ProgB AJ.Proofs.BoundB

/-- the event, occurring in state `st`, is one the run of `s` may be waiting for:
    * the beginning of its run;
    * the end of the body of one of its jobs, or of the run of a nested job: `grant k` for an empty nested scheduler,
      `tidyReturn k` when `k` has already shut down, `sdWaitReturn k` / `sdTidyReturn k` inline;
    * the end of the shutdown handler of one of its jobs, or of the relayed shutdown of a nested job: `hStep k` when `k`
      has already shut down, `sdWaitReturn k` / `sdTidyReturn k` relayed;
    * an expiry: `timeoutFire s`, or `sdTimeoutFire s` while its inline shutdown waits;
    * a cancellation delivered to its run.
    (`hCancelArrive s` is not needed: it concerns the relayed shutdown of `s`, not its run.) -/
def wakesAt (c : Cfg) (s : Nat) (st : StB) : EvB → Bool
  | .runBegin => s == 0
  | .grant k => k == s || (decide (k ∈ c.children s) && c.isSched k && (c.children k).isEmpty)
  | .bodyEnd k _ => decide (k ∈ c.children s)
  | .cancelAck k => decide (k ∈ c.children s)
  | .cancelArrive s' => s' == s
  | .timeoutFire s' => s' == s
  | .tidyReturn k _ => decide (k ∈ c.children s) && st.didSd k
  | .hStep k => decide (k ∈ c.children s) && st.didSd k
  | .hEnd k => decide (k ∈ c.children s)
  | .hCancelAck k => decide (k ∈ c.children s)
  | .sdWaitReturn k _ => decide (k ∈ c.children s)
  | .sdTidyReturn k _ => decide (k ∈ c.children s)
  | .sdTimeoutFire s' => s' == s && st.bc s == .bwait .inline
  | _ => false

theorem child_hph_step {c : Cfg} {s : Nat} {st st' : StB} {e : EvB} (h : StepB c st e st')
    (hw : wakesAt c s st e = false) (k : Nat) (hk : k ∈ c.children s) (hh : st.hph k = .hactive) :
    st'.hph k = .hactive := by
  rcases hph_moves h k with h1 | h1 | he
  · rw [h1]; exact hh
  · exact h1
  · -- the events that end the handler of a job of `s` are waking events of `s`
    match he with
    | .atomic (ev := hev) .. => rcases hev with rfl | rfl <;> simp [wakesAt, *] at hw
    | .relaySkips (ev := hev) .. | .relayWaitReturns (ev := hev) .. | .relayTidyReturns (ev := hev) .. =>
      subst hev; simp [wakesAt, *] at hw

theorem child_ph_step {c : Cfg} {s : Nat} {st st' : StB} {e : EvB} (h : StepB c st e st')
    (hw : wakesAt c s st e = false) (k : Nat) (hk : k ∈ c.children s) :
    st'.a.ph k = st.a.ph k ∨ (st.a.ph k = .idle ∧ st'.a.ph k = .queued) ∨
      (st.a.ph k = .queued ∧ st'.a.ph k = .running) := by
  rcases h.proj with heq | ⟨ea, hp, ha⟩
  · exact Or.inl (by rw [heq])
  have hk0 := (mem_children.1 hk).2.1
  match ph_cases ha k with
  | .same h1 => exact Or.inl h1
  | .created (was := h1) (ph := h2) .. => exact Or.inr (Or.inl ⟨h1, h2⟩)
  | .topBegins (top := h1) .. => exact absurd h1 hk0
  | .granted (ev := hev) (was := hq) (ph := h2) .. =>
    -- granted: were it an empty nested scheduler, the event would be a waking one
    subst hev; cases hp
    rw [h2, if_neg]
    · exact Or.inr (Or.inr ⟨hq, rfl⟩)
    · rintro ⟨hs, he⟩; simp [wakesAt, hk, hs, he] at hw
  | .bodyEnds (ev := hev) .. | .cancelAcked (ev := hev) .. => subst hev; cases hp; simp [wakesAt, hk] at hw
  | .finished (ev := hev) .. => subst hev; cases hp <;> simp [wakesAt, *] at hw

/-- the run of `s` cannot make a step of its own: the wait it is in is blocked (nothing is required of a run that has
    not begun or is over) -/
structure Stuck (c : Cfg) (s : Nat) (st : StB) : Prop where
  loop : st.pcB s = .loop → st.a.rx s = none ∧ doneSet c st.a s = []
  tidy : ∀ x, st.pcB s = .tidy x → liveChildren c st.a s ≠ []
  shut : ∀ x, (st.pcB s = .shut x ∨ st.pcB s = .shutTidy x) → activeHandlers c st s ≠ []

theorem stuck_init (c : Cfg) (s : Nat) : Stuck c s StB.init := by
  constructor <;> simp [StB.init]

theorem stuck_of_quiet {c : Cfg} {st : StB} (hB : InvB c st) (hq : quietB c st = true) (s : Nat) : Stuck c s st := by
  have hQ := (quietB_iff c st).1 hq
  constructor
  · intro hl
    obtain ⟨hs, hsch⟩ := hB.pcRange s (by simp [hl])
    exact quiet_loop (hQ s hs) hsch hl
  · intro x hx hl
    obtain ⟨hs, hsch⟩ := hB.pcRange s (by simp [hx])
    exact (hQ s hs).q4 ⟨hsch, by simp [hx, PcB.isTidy], hl⟩
  · intro x hx hl
    obtain ⟨hs, hsch⟩ := hB.pcRange s (by rcases hx with hx | hx <;> simp [hx])
    obtain ⟨k, hk, hh⟩ := quiet_shutting hB (hQ s hs) hsch hx
    exact activeHandlers_nil hl k hk hh

theorem Stuck.not_endsBy {c : Cfg} {s pick : Nat} {st : StB} {e : EvB} {x : Exit} (hS : Stuck c s st)
    (he : EndsBy c st e s pick x) : False :=
  match he with
  | .tidyReturns (pc := hp) (quiet := hlive) .. => hS.tidy x hp hlive
  | .sdWaitReturns (pc := hp) (quiet := hact) .. => hS.shut x (Or.inl hp) hact
  | .sdTidyReturns (pc := hp) (quiet := hact) .. => hS.shut x (Or.inr hp) hact

theorem stuck_pcB {c : Cfg} {s : Nat} {st st' : StB} {e : EvB} (h : StepB c st e st')
    (hw : wakesAt c s st e = false) (hS : Stuck c s st) : st'.pcB s = st.pcB s := by
  match pc_cases h s with
  | .same (pc := h1) .. => exact h1
  | .begins (ev := hev) .. => rcases hev with ⟨rfl, rfl⟩ | ⟨rfl, _⟩ <;> simp [wakesAt] at hw
  | .leaves (x := x) (loop := hl) (reason := hr) .. =>
    -- it leaves its loop by a waking event, or by a reaction, which was pending
    have hrx := (hS.loop hl).1
    cases x <;> simp only [ExitReason] at hr
    case success => obtain ⟨_, D, hD, _⟩ := hr; rw [hrx] at hD; cases hD
    case critical => obtain ⟨_, D, hD, _⟩ := hr; rw [hrx] at hD; cases hD
    case crashed => obtain ⟨_, D, hD⟩ := hr; rw [hrx] at hD; cases hD
    case cancelled => subst hr; simp [wakesAt] at hw
    case timeout =>
      obtain ⟨_, _, _, ⟨rfl, _⟩ | ⟨_, D, hD, _⟩⟩ := hr
      · simp [wakesAt] at hw
      · rw [hrx] at hD; cases hD
  | .moves (move := hm) .. =>
    -- while it cleans up: a delivered cancellation and an expiry are waking events, the tidy wait was blocked
    generalize hp : st.pcB s = p at hm
    generalize st'.pcB s = q at hm
    cases hm
    case shutdown x pick he hlive hsd => exact absurd hlive (hS.tidy x hp)
    case shutExpired x he hbc => subst he; simp [wakesAt, hbc] at hw
    all_goals (subst_vars; simp [wakesAt] at hw)
  | .ends (by_ := he) .. => exact (hS.not_endsBy he).elim

theorem stuck_step {c : Cfg} {s : Nat} {st st' : StB} {e : EvB} (h : StepB c st e st')
    (hw : wakesAt c s st e = false) (hS : Stuck c s st) : Stuck c s st' := by
  have hpc := stuck_pcB h hw hS
  refine ⟨fun hl' => ?_, fun x hx' hl' => ?_, fun x hx' hl' => ?_⟩
  · obtain ⟨hrx, hds⟩ := hS.loop (hpc ▸ hl')
    constructor
    · rcases h.proj with heq | ⟨ea, _, ha⟩
      · rw [heq]; exact hrx
      · rcases rx_cases ha s with h1 | h1 | ⟨_, _, hne, _⟩
        · rw [h1]; exact hrx
        · exact h1
        · exact absurd hds hne
    · -- a job of the `done` set of `st'` was finished and unreported in `st` already
      refine List.eq_nil_iff_forall_not_mem.2 fun k hk => ?_
      obtain ⟨hkc, hfin, hdl⟩ := Run.mem_doneSet.1 hk
      have hfin0 : (st.a.ph k).isDone = true ∨ st.a.ph k = .cancelled := by
        rcases child_ph_step h hw k hkc with h1 | ⟨_, h1⟩ | ⟨_, h1⟩
        · rw [← h1]; exact hfin
        · simp [h1, Ph.isDone] at hfin
        · simp [h1, Ph.isDone] at hfin
      have hdl0 : st.a.deliv k = false := Bool.eq_false_iff.2 fun hd => by rw [h.deliv_mono hd] at hdl; cases hdl
      have : k ∈ doneSet c st.a s := Run.mem_doneSet.2 ⟨hkc, hfin0, hdl0⟩
      rw [hds] at this; cases this
  · obtain ⟨k, hk⟩ := List.exists_mem_of_ne_nil _ (hS.tidy x (hpc ▸ hx'))
    obtain ⟨hkc, hlv⟩ := mem_liveChildren.1 hk
    have hlv' := liveChildren_nil hl' k hkc
    rcases child_ph_step h hw k hkc with h1 | ⟨h1, _⟩ | ⟨_, h1⟩
    · rw [h1, hlv] at hlv'; cases hlv'
    · simp [h1, Ph.live] at hlv
    · simp [h1, Ph.live] at hlv'
  · obtain ⟨k, hk⟩ := List.exists_mem_of_ne_nil _ (hS.shut x (hpc ▸ hx'))
    obtain ⟨hkc, hact⟩ := mem_activeHandlers.1 hk
    exact activeHandlers_nil hl' k hkc (child_hph_step h hw k hkc hact)

def beginsB (s : Nat) : EvB → Bool
  | .runBegin => s == 0
  | .grant k => k == s
  | _ => false

/-- the case `beginsB`: an empty scheduler ends in the step that begins it -/
theorem stuck_not_ended {c : Cfg} {s : Nat} {st st' : StB} {e : EvB} (h : StepB c st e st') (hS : Stuck c s st)
    (hn : st.pcB s ≠ .over) (ho : st'.pcB s = .over) : beginsB s e = true := by
  match pc_cases h s with
  | .same (pc := h1) .. => exact absurd (h1 ▸ ho) hn
  | .begins (ev := hev) .. => rcases hev with ⟨rfl, rfl⟩ | ⟨rfl, _⟩ <;> simp [beginsB]
  | .leaves (pc := hx) .. => rw [ho] at hx; cases hx
  | .moves (move := hm) .. => exact absurd ho hm.not_over
  | .ends (by_ := he) .. => exact (hS.not_endsBy he).elim

/-- C10 (d), history form: the run of a scheduler ends at the very instant of the last event it was waiting for -/
theorem end_no_latency (c : Cfg) (hwf : c.wf = true) (evs : List EvB) (e : EvB) (s : Nat) (st0 st : StB)
    (h0 : acceptB c StB.init evs = some st0) (h1 : stepB c st0 e = some st)
    (hn : st0.pcB s ≠ .over) (ho : st.pcB s = .over) :
    beginsB s e = true ∨
    ∃ a e0 b sta, evs = a ++ e0 :: b ∧ acceptB c StB.init a = some sta ∧ wakesAt c s sta e0 = true ∧
      ∀ x ∈ b, isTick x = false :=
  ((isRunB c).holds_or_caused isTick (wakesAt c s) (Stuck c s) (stuck_init c s)
      (fun pre st _ _ hpre hs ht =>
        stuck_of_quiet (invB_reach c hwf pre st hpre) ((StepB.of_stepB hs).quiet_of_isTick ht) s)
      (fun _ _ _ _ _ hs hC hS => stuck_step (.of_stepB hs) hC hS) h0).imp_left
    fun hS => stuck_not_ended (.of_stepB h1) hS hn ho

/-- `wakesAt` without its conditions on the state (`wakes_of_wakesAt`) -/
def wakes (c : Cfg) (s : Nat) : EvB → Bool
  | .runBegin => s == 0
  | .grant k => k == s || (decide (k ∈ c.children s) && c.isSched k && (c.children k).isEmpty)
  | .bodyEnd k _ => decide (k ∈ c.children s)
  | .cancelAck k => decide (k ∈ c.children s)
  | .cancelArrive s' => s' == s
  | .timeoutFire s' => s' == s
  | .tidyReturn k _ => decide (k ∈ c.children s)
  | .hStep k => decide (k ∈ c.children s)
  | .hEnd k => decide (k ∈ c.children s)
  | .hCancelAck k => decide (k ∈ c.children s)
  | .sdWaitReturn k _ => decide (k ∈ c.children s)
  | .sdTidyReturn k _ => decide (k ∈ c.children s)
  | .sdTimeoutFire s' => s' == s
  | _ => false

theorem wakes_of_wakesAt (c : Cfg) (s : Nat) (st : StB) (e : EvB) (h : wakesAt c s st e = true) :
    wakes c s e = true := by
  cases e <;> simp only [wakesAt, wakes, Bool.and_eq_true] at h ⊢ <;> first | exact h | exact h.1 | cases h

theorem begins_not_over (c : Cfg) (s : Nat) (st st' : StB) (e : EvB) (h : stepB c st e = some st')
    (hb : beginsB s e = true) (hne : c.children s ≠ []) (hn : st.pcB s ≠ .over) : st'.pcB s ≠ .over := by
  intro ho
  match pc_cases (.of_stepB h) s with
  | .same (pc := h1) .. => exact hn (h1 ▸ ho)
  | .begins (pc := hx) .. => rw [ho, if_neg (by simpa using hne)] at hx; cases hx
  | .leaves (pc := hx) .. => rw [ho] at hx; cases hx
  | .moves (move := hm) .. => exact absurd ho hm.not_over
  | .ends (by_ := he) .. => rcases he.event with rfl | rfl | rfl <;> cases hb

/-- C10 (d), history form, for a scheduler that has jobs and with the state-free set of waking events: the event that
    ends its run is separated by no `tick` from the last waking event -/
theorem end_no_latency_jobs (c : Cfg) (hwf : c.wf = true) (evs : List EvB) (e : EvB) (s : Nat) (st0 st : StB)
    (h0 : acceptB c StB.init evs = some st0) (h1 : stepB c st0 e = some st)
    (hn : st0.pcB s ≠ .over) (ho : st.pcB s = .over) (hne : c.children s ≠ []) :
    ∃ a e0 b, evs = a ++ e0 :: b ∧ wakes c s e0 = true ∧ ∀ x ∈ b, isTick x = false := by
  rcases end_no_latency c hwf evs e s st0 st h0 h1 hn ho with hb | ⟨a, e0, b, sta, hsp, _, hw, hb⟩
  · exact absurd ho (begins_not_over c s st0 st e h1 hb hne hn)
  · exact ⟨a, e0, b, hsp, wakes_of_wakesAt _ _ _ _ hw, hb⟩

/- `NestB.exCfg`: top-level scheduler `0` with a nested scheduler `1` (one job, `2`) and an atomic job `3`.  The run of
   `1` ends (`sdWaitReturn 1 0`: its inline shutdown returns) after the end of the handler of `2` (`hEnd 2`, the last
   waking event) and the unrelated end of job `3`. -/

def exEvs : List EvB :=
  [.runBegin, .grant 1, .grant 3, .grant 2, .tick 5, .bodyEnd 2 true, .waitReturn 1, .react 1, .tidyReturn 1 0,
   .tick 2, .hEnd 2, .bodyEnd 3 true]

def exEnd : EvB := .sdWaitReturn 1 0

/-- `end_no_latency_jobs` applies to `exEvs ++ [exEnd]` and `s = 1` -/
example : ∃ a e0 b, exEvs = a ++ e0 :: b ∧ wakes NestB.exCfg 1 e0 = true ∧ ∀ x ∈ b, isTick x = false := by
  have hpre : (acceptB NestB.exCfg StB.init exEvs).map (fun st => decide (st.pcB 1 ≠ .over)) = some true := by decide
  have hpost : (acceptB NestB.exCfg StB.init (exEvs ++ [exEnd])).map (fun st => decide (st.pcB 1 = .over)) = some true := by
    decide
  cases h0 : acceptB NestB.exCfg StB.init exEvs with
  | none => rw [h0] at hpre; cases hpre
  | some st0 =>
    rw [h0] at hpre
    rw [(isRunB _).append, h0] at hpost
    simp only [Option.bind_some, acceptB] at hpost
    cases h1 : stepB NestB.exCfg st0 exEnd with
    | none => rw [h1] at hpost; cases hpost
    | some st =>
      rw [h1] at hpost
      exact end_no_latency_jobs NestB.exCfg (by decide) exEvs exEnd 1 st0 st h0 h1
        (by simpa using hpre) (by simpa using hpost) (by decide)

/-- the split: the last waking event of `1` is the end of the handler of its job `2`; both ticks lie before it; the
    event after it is not a waking event of `1` -/
example :
    exEvs = [.runBegin, .grant 1, .grant 3, .grant 2, .tick 5, .bodyEnd 2 true, .waitReturn 1, .react 1,
             .tidyReturn 1 0, .tick 2] ++ .hEnd 2 :: [.bodyEnd 3 true] ∧
    wakes NestB.exCfg 1 (.hEnd 2) = true ∧ wakes NestB.exCfg 1 (.bodyEnd 3 true) = false ∧
    isTick (.bodyEnd 3 true) = false ∧
    (acceptB NestB.exCfg StB.init [.runBegin, .grant 1, .grant 3, .grant 2, .tick 5, .bodyEnd 2 true, .waitReturn 1,
        .react 1, .tidyReturn 1 0, .tick 2]).map (fun sta => wakesAt NestB.exCfg 1 sta (.hEnd 2)) = some true ∧
    (acceptB NestB.exCfg StB.init exEvs).map (fun st => st.pcB 1) = some (.shut .success) ∧
    (acceptB NestB.exCfg StB.init (exEvs ++ [exEnd])).map (fun st => st.pcB 1) = some .over := by
  refine ⟨rfl, ?_, ?_, ?_, ?_, ?_, ?_⟩ <;> decide

/-- with a tick between the last waking event and the end of the run the history is not accepted -/
example : (acceptB NestB.exCfg StB.init (exEvs ++ [.tick 1, exEnd])).isNone = true ∧
    (acceptB NestB.exCfg StB.init (exEvs ++ [.tick 1])).isNone = true := by
  constructor <;> decide

/-- an empty nested scheduler: its run ends at the event that begins it (first alternative of `end_no_latency`) -/
def exCfgE : Cfg :=
  { n := 2, parent := fun _ => 0, isSched := fun _ => true, req := fun _ => [],
    critical := fun _ => false, forever := fun _ => false, window := fun _ => 0, timeout := fun _ => none,
    sdTimeout := fun _ => none, topPure := true }

example : exCfgE.wf = true ∧ exCfgE.children 1 = [] ∧ beginsB 1 (.grant 1) = true ∧
    (acceptB exCfgE StB.init [.runBegin]).map (fun st => st.pcB 1) = some .notBegun ∧
    (acceptB exCfgE StB.init [.runBegin, .grant 1]).map (fun st => st.pcB 1) = some .over := by
  decide

end AJ.Proofs.LatB

namespace AJ.Proofs.Gap1
open AJ.Run AJ.Full AJ.Proofs.CoreB AJ.Proofs.LatB

/-- C05 (forward urgency): while a critical job of `s` has raised and `s` is still in its main loop, time does not
    pass: the wait-return / the reaction that makes the run abort is due in that very instant -/
theorem critical_raise_urgent (c : Cfg) (hwf : c.wf = true) (evs : List EvB) (st : StB)
    (h : acceptB c StB.init evs = some st) (s k : Nat) (hk : k ∈ c.children s) (hc : c.critical k = true)
    (hex : ∃ ex, st.a.ph k = .done (.exc ex)) (hl : st.pcB s = .loop) : ∀ d, stepB c st (.tick d) = none := by
  intro d
  refine Option.eq_none_iff_forall_ne_some.2 fun st' hs => ?_
  have hB := invB_reach c hwf evs st h
  -- a tick finds the loop of `s` with nothing to hand over and no reaction pending
  obtain ⟨hrx, hds⟩ := (stuck_of_quiet hB (StepB.of_stepB hs).tick_inv.1 s).loop hl
  rcases hB.noCrit s hl k hk hc hex with h1 | h1
  · obtain ⟨ex, hex⟩ := hex
    rw [deliv_of_doneSet_nil hds hk (by simp [hex, Ph.isDone])] at h1; cases h1
  · simp [rxD, hrx] at h1

end AJ.Proofs.Gap1

namespace AJ.Proofs.Gap2
open AJ.Run AJ.Full AJ.Proofs.CoreB AJ.Proofs.ExitB AJ.Proofs.LatB

set_option linter.unusedVariables false in
/-- C09 "as soon as", forward direction: where time can pass (`quietB`), a scheduler still in its main loop that has a
    non-forever job has one that is not finished — the run leaves its loop before any time passes once all its regular
    jobs are finished -/
theorem regular_done_not_in_loop (c : Cfg) (hwf : c.wf = true) (evs : List EvB) (st : StB)
    (h : acceptB c StB.init evs = some st) (hq : quietB c st = true)
    (s : Nat) (hs : s < c.n) (hsch : c.isSched s = true) (hl : st.pcB s = .loop) (hpos : 0 < nbFinite c s) :
    ∃ k ∈ c.children s, c.forever k = false ∧ (st.a.ph k).isDone = false := by
  have hB := invB_reach c hwf evs st h
  obtain ⟨hrx, hds⟩ := (stuck_of_quiet hB hq s).loop hl
  -- otherwise every regular job has finished, hence (quiet) been reported and counted: the run has left its loop
  obtain ⟨k, hk, hf, hd⟩ := AdmB.loop_regular_unreported hB (AdmB.pending_reach c evs st h) hl hrx hpos
  exact ⟨k, hk, hf, Bool.eq_false_iff.2 fun hdone => by rw [Run.deliv_of_doneSet_nil hds hk hdone] at hd; cases hd⟩

/-- C08 "finish strictly before T ⇒ no effect", history form: if the run of `s` (with at least one non-forever job)
    leaves its main loop by timeout, one of its non-forever jobs was unfinished at every instant strictly before the
    expiry — i.e. in every state of the history from which time passed (`tick`). -/
theorem timeout_means_regular_pending (c : Cfg) (hwf : c.wf = true) (evs : List EvB) (e : EvB) (s : Nat) (st0 st : StB)
    (h0 : acceptB c StB.init evs = some st0) (h1 : stepB c st0 e = some st)
    (hloop : st0.pcB s = .loop) (hx : st.pcB s = .tidy .timeout) (hpos : 0 < nbFinite c s) :
    ∃ k ∈ c.children s, c.forever k = false ∧
      ∀ a d b sta, evs = a ++ .tick d :: b → acceptB c StB.init a = some sta → (sta.a.ph k).isDone = false := by
  obtain ⟨k, hk, hf, hdl⟩ := timeout_means_unreported c hwf evs e s st0 st h0 h1 hloop hx hpos
  refine ⟨k, hk, hf, ?_⟩
  rintro a d b sta rfl ha
  have hAa := invA_of_reachB c hwf a sta ha
  have hBa := invB_reach c hwf a sta ha
  obtain ⟨sta', ha', h0⟩ := (isRunB c).append_some.1 h0
  obtain rfl : sta = sta' := Option.some.inj (ha.symm.trans ha')
  obtain ⟨st1, hs, _⟩ := (isRunB c).cons_some.1 h0
  have hq := (StepB.of_stepB hs).tick_inv.1
  refine Bool.eq_false_iff.2 fun hd => ?_
  -- finished, and (as later) not reported, `k` would be waiting to be handed over: in that quiet state the run of `s`
  -- is not in its loop; it has begun (`k` is not idle): it has left its loop, and never goes back
  have hnl : sta.pcB s ≠ .loop := fun hl => by
    rw [deliv_later h0 (Run.deliv_of_doneSet_nil ((stuck_of_quiet hBa hq s).loop hl).2 hk hd)] at hdl; cases hdl
  have hnb : sta.pcB s ≠ .notBegun := fun hnb => by
    rw [hAa.childrenIdle ((hBa.pcNotBegun s).1 hnb) k hk] at hd; cases hd
  exact (loop_left_later hwf hAa hBa h0 hnl hnb).1 hloop

end AJ.Proofs.Gap2
