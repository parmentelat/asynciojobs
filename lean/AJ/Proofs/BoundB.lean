/-
  Layer B: no livelock (C03) — the number of events other than the passing of time in an accepted history is
  bounded by a function of the configuration alone: a run cannot go on for ever without time passing.
  The variant is a sum of ranks, one per field of the state that records progress: no field ever moves up its rank,
  and every event other than `tick` moves one of them down, at an id that counts.
-/
import AJ.Proofs.CoreB
namespace AJ.Proofs.BoundB
open AJ.Run AJ.Full AJ.Proofs.CoreA AJ.Proofs.CoreB

def work (evs : List EvB) : Nat := (evs.filter fun e => !isTick e).length

theorem work_snoc (evs : List EvB) (e : EvB) : work (evs ++ [e]) = work evs + (if isTick e = true then 0 else 1) := by
  unfold work
  cases ht : isTick e <;> simp [List.filter_append, List.filter, ht]

/-- `Σ_{j<n} w (f j)` -/
def rk {α : Type} : Nat → (α → Nat) → (Nat → α) → Nat
  | 0, _, _ => 0
  | n + 1, w, f => rk n w f + w (f n)

theorem rk_le {α : Type} {n : Nat} {w : α → Nat} {f g : Nat → α} (h : ∀ j, j < n → w (g j) ≤ w (f j)) :
    rk n w g ≤ rk n w f := by
  induction n with
  | zero => exact Nat.le_refl _
  | succ n ih =>
    have h1 := ih fun j hj => h j (by omega)
    have h2 := h n (by omega)
    simp only [rk]; omega

theorem rk_congr {α : Type} {n : Nat} {w : α → Nat} {f g : Nat → α} (h : ∀ j, j < n → w (g j) = w (f j)) :
    rk n w g = rk n w f :=
  Nat.le_antisymm (rk_le fun j hj => Nat.le_of_eq (h j hj)) (rk_le fun j hj => Nat.le_of_eq (h j hj).symm)

theorem rk_const {α : Type} (n : Nat) (w : α → Nat) (x : α) : rk n w (fun _ => x) = n * w x := by
  induction n with
  | zero => simp [rk]
  | succ n ih => simp only [rk, ih, Nat.succ_mul]

theorem rk_setAt {α : Type} {n : Nat} (w : α → Nat) (f : Nat → α) {k : Nat} (hk : k < n) (v : α) :
    rk n w (setAt f k v) + w (f k) = rk n w f + w v := by
  induction n with
  | zero => omega
  | succ n ih =>
    simp only [rk]
    by_cases hkn : k = n
    · subst hkn
      have h1 : rk k w (setAt f k v) = rk k w f := rk_congr fun j hj => by rw [setAt_of_ne f v (by omega)]
      rw [setAt_self]; omega
    · have h1 := ih (by omega)
      rw [setAt_of_ne f v (Ne.symm hkn)]; omega

/-- needs no `k < n`: an id that is not summed over does not count -/
theorem rk_setAt_le {α : Type} {n : Nat} (w : α → Nat) (f : Nat → α) (k : Nat) (v : α) (h : w v ≤ w (f k)) :
    rk n w (setAt f k v) ≤ rk n w f :=
  rk_le fun j _ => by
    rcases setAt_cases f k v j with ⟨_, e⟩ | ⟨rfl, e⟩ <;> rw [e]
    · exact Nat.le_refl _
    · exact h

theorem rk_drop {α : Type} {n : Nat} {w : α → Nat} {f g : Nat → α} (d : Nat) {k : Nat} (hk : k < n)
    (hd : w (g k) + d ≤ w (f k)) (h : ∀ j, j < n → w (g j) ≤ w (f j)) : rk n w g + d ≤ rk n w f := by
  have h1 := rk_setAt w g hk (f k)
  have h2 : rk n w (setAt g k (f k)) ≤ rk n w f := rk_le fun j hj => by
    rcases setAt_cases g k (f k) j with ⟨_, e⟩ | ⟨rfl, e⟩ <;> rw [e]
    · exact h j hj
    · exact Nat.le_refl _
  omega

/- The weights: every event other than `tick` and `extCancel` has to take a unit somewhere, and no field may ever move
   up.  A task goes `idle`, `queued`, `running`, finished (3).  A run goes `notBegun` or `loop`, `tidy`, `shut` or
   `shutTidy`, `over` (3): its beginning is paid for by the task, which starts running, and the step from `shut` to
   `shutTidy` by the broadcast or the delivery that causes it.  A broadcast goes `bnone`, `bwait`, `btidy`, `bover` (3),
   a handler `hnone`, `hactive`, finished (2), and each of the two `CancelledError`s is delivered once (1 + 1).
   A report is worth 2 because `waitReturn`, which hands over at least one, also opens a reaction (`rx` up by 1) that
   `react` then closes.  Together 15 units per id. -/
def wDl : Bool → Nat | true => 0 | false => 2
def wB : Bool → Nat | true => 0 | false => 1
def wRx : Option (List Nat) → Nat | none => 0 | some _ => 1
def wPh : Ph → Nat | .idle => 3 | .queued => 2 | .running => 1 | _ => 0
def wPc : PcB → Nat | .notBegun => 3 | .loop => 3 | .tidy _ => 2 | .shut _ => 1 | .shutTidy _ => 1 | .over => 0
def wBc : Bc → Nat | .bnone => 3 | .bwait _ => 2 | .btidy _ => 1 | .bover => 0
def wHp : Hph → Nat | .hnone => 2 | .hactive => 1 | _ => 0

def muA (c : Cfg) (a : StA) : Nat := rk c.n wDl a.deliv + rk c.n wPh a.ph + rk c.n wRx a.rx

def wId (st : StB) (s : Nat) : Nat :=
  wPc (st.pcB s) + wB (st.carrived s) + wB (st.hcarrived s) + wBc (st.bc s) + wHp (st.hph s)

def muB (c : Cfg) (st : StB) : Nat := rk c.n id (wId st)

def mu0 (c : Cfg) (st : StB) : Nat := muA c st.a + muB c st

/-- the cancellation from outside (`extCancel`) can still come: `cancel()` has not been called on the top-level task,
    which has not finished.  It happens at most once: `creq 0` stands until the task has ended, and then it is finished
    for good. -/
def wX (a : StA) : Nat :=
  if a.creq 0 = true ∨ (a.ph 0).isDone = true ∨ a.ph 0 = .cancelled then 0 else 1

theorem wX_le_one (a : StA) : wX a ≤ 1 := by unfold wX; split <;> omega

def mu (c : Cfg) (st : StB) : Nat := mu0 c st + wX st.a

theorem mu_init (c : Cfg) : mu c StB.init ≤ 15 * c.n + 1 := by
  have := wX_le_one StB.init.a
  have hB : muB c StB.init = c.n * 10 := rk_const c.n id 10
  rw [mu, mu0, hB]
  simp only [muA, StB.init, StA.init, rk_const, wDl, wRx, wPh] at this ⊢; omega

/-- `leave` takes nothing at layer A: at layer B the run's own rank pays (`loop` 3 → `tidy` 2) -/
def dropA : EvA → Nat
  | .leave _ _ => 0 | .tick _ => 0 | .extCancel => 0 | _ => 1

theorem wPh_finPh (r : Option Res) : wPh (finPh r) = 0 := by cases r <;> rfl

theorem muA_startJobs (c : Cfg) (a : StA) (S : List Nat) : muA c (startJobs a S) ≤ muA c a := by
  have : rk c.n wPh (startJobs a S).ph ≤ rk c.n wPh a.ph := rk_le fun k _ => by
    simp only [startJobs]; split
    · rename_i h; rw [h.2]; decide
    · exact Nat.le_refl _
  simp only [muA, startJobs] at this ⊢; omega

theorem muA_stepA {c : Cfg} (hn : 0 < c.n) {a a' : StA} {e : EvA} (h : StepA c a e a') :
    muA c a' + dropA e ≤ muA c a := by
  have task {j : Nat} {p : Ph} {a' : StA} (hj : j < c.n) (h1 : a'.ph = setAt a.ph j p) (h2 : a'.deliv = a.deliv)
      (h3 : rk c.n wRx a'.rx ≤ rk c.n wRx a.rx) (hp : wPh p < wPh (a.ph j)) : muA c a' + 1 ≤ muA c a := by
    have := rk_setAt wPh a.ph hj p
    simp only [muA, h1, h2]; omega
  have rx0 (s : Nat) : rk c.n wRx (setAt a.rx s none) ≤ rk c.n wRx a.rx := rk_setAt_le wRx a.rx s none (Nat.zero_le _)
  have react {s : Nat} {D : List Nat} (hs : s < c.n) (hrx : a.rx s = some D) :
      muA c { a with rx := setAt a.rx s none } + 1 ≤ muA c a := by
    have := rk_setAt wRx a.rx hs none
    rw [hrx] at this
    simp only [muA, wRx] at this ⊢; omega
  cases h <;> simp only [dropA, release]
  case runBeginEmpty hph _ _ => exact task hn rfl rfl (Nat.le_refl _) (by simp [hph, wPh])
  case grantJob hjn hph _ _ _ | grantEmpty hjn hph _ _ _ _ | bodyEnd hjn _ hph _ | cancelQueued hjn _ hph
      | cancelRunning hjn _ hph _ =>
    exact task hjn rfl rfl (Nat.le_refl _) (by simp [hph, wPh])
  case finishTop hph => exact task hn rfl rfl (Nat.le_refl _) (by rw [hph, wPh_finPh]; decide)
  case finish hsn _ _ hph => exact task hsn rfl rfl (Nat.le_refl _) (by rw [hph, wPh_finPh]; decide)
  case runBegin hph _ _ =>
    exact Nat.le_trans (Nat.add_le_add_right (muA_startJobs ..) _) (task hn rfl rfl (rx0 0) (by simp [hph, wPh]))
  case grantSched j _ hjn hph _ _ _ _ =>
    exact Nat.le_trans (Nat.add_le_add_right (muA_startJobs ..) _) (task hjn rfl rfl (rx0 j) (by simp [hph, wPh]))
  case waitReturn s hsn _ _ hrx hD =>
    -- at least one report is handed over (2), a reaction is opened (1)
    have h1 : rk c.n wDl (fun k => a.deliv k || decide (k ∈ doneSet c a s)) + 2 ≤ rk c.n wDl a.deliv := by
      obtain ⟨k, hk⟩ := List.exists_mem_of_ne_nil _ hD
      obtain ⟨hkc, _, hkd⟩ := mem_doneSet.1 hk
      refine rk_drop 2 (mem_children.1 hkc).1 (by simp [hk, hkd, wDl]) fun j _ => ?_
      cases a.deliv j <;> simp only [Bool.false_or, Bool.true_or, wDl]
      · split <;> decide
      · exact Nat.le_refl _
    have h2 := rk_setAt wRx a.rx hsn (some (doneSet c a s))
    rw [hrx] at h2
    simp only [muA, wRx] at h2 ⊢; omega
  case reactLeave hrx hsn _ _ _ => exact react hsn hrx
  case reactGo hrx hsn _ _ => exact Nat.le_trans (Nat.add_le_add_right (muA_startJobs ..) _) (react hsn hrx)
  case leave s K _ _ _ _ =>
    have := rx0 s
    simp only [muA]; omega
  case tick | extCancel => exact Nat.le_refl _

def isExt : EvB → Bool
  | .extCancel => true
  | _ => false

theorem isExt_iff {e : EvB} : isExt e = true ↔ e = .extCancel :=
  ⟨fun h => match e, h with | .extCancel, _ => rfl, fun h => h ▸ rfl⟩

theorem rankB_le {c : Cfg} {st st' : StB} {e : EvB} (hA : InvA c st.a) (hinv : InvB c st) (h : StepB c st e st')
    (s : Nat) :
    wPc (st'.pcB s) ≤ wPc (st.pcB s) ∧ wB (st'.carrived s) ≤ wB (st.carrived s) ∧
    wB (st'.hcarrived s) ≤ wB (st.hcarrived s) ∧ wBc (st'.bc s) ≤ wBc (st.bc s) ∧
    wHp (st'.hph s) ≤ wHp (st.hph s) := by
  refine ⟨?_, ?_, ?_, ?_, ?_⟩
  · match pc_cases h s with
    | .same (pc := h1) .. => rw [h1]; exact Nat.le_refl _
    | .begins (pc := h1) (was := h2) .. =>
      rw [h1, hinv.notBegun_of_queued hA h2]; split <;> decide
    | .leaves (loop := h0) (pc := h1) .. => rw [h0, h1]; exact Nat.le_succ _
    | .moves (move := hm) .. =>
      generalize st.pcB s = p at hm
      generalize st'.pcB s = q at hm
      cases hm <;> simp [wPc]
    | .ends (pc := h1) .. => rw [h1]; exact Nat.zero_le _
  · rcases carrived_cases h s with h1 | ⟨_, _, h1, _⟩ <;> rw [h1]
    · exact Nat.le_refl _
    · exact Nat.zero_le _
  · rcases hcarrived_cases h s with h1 | ⟨_, _, h1, _⟩ <;> rw [h1]
    · exact Nat.le_refl _
    · exact Nat.zero_le _
  · match bc_cases h s with
    | .same (bc := h1) .. => rw [h1]; exact Nat.le_refl _
    | .begins (didSdWas := hd) (bc := h1) .. => rw [h1, (hinv.bcNone s).2 hd]; exact Nat.le_succ _
    | .givenUp (bc := h1) (by_ := hg) .. => rw [h1, hg.wait hinv]; exact Nat.le_succ _
    | .ends (bc := h1) .. => rw [h1]; exact Nat.zero_le _
  · match hph_cases h s with
    | .same (hph := h1) .. => rw [h1]; exact Nat.le_refl _
    | .created (child := hk) (didSd := hd) (hph := h1) .. => rw [h1, (hinv.hph_none_of_didSd hk hd).2]; decide
    | .cancelled (was := h0) (hph := h1) .. | .cancelArrives (was := h0) (hph := h1) .. =>
      rw [h0, h1]; exact Nat.le_refl _
    | .ends (by_ := he) .. => rcases he.final with h1 | h1 <;> rw [h1] <;> exact Nat.zero_le _

theorem mu0_step {c : Cfg} (hn : 0 < c.n) {st st' : StB} {e : EvB} (hA : InvA c st.a) (hinv : InvB c st)
    (h : StepB c st e st') : mu0 c st' + (if isTick e = true ∨ isExt e = true then 0 else 1) ≤ mu0 c st := by
  have mono := rankB_le hA hinv h
  have mono' (j : Nat) : wId st' j ≤ wId st j := by have := mono j; unfold wId; omega
  have le : muB c st' ≤ muB c st := rk_le fun j _ => mono' j
  -- a field that moves down at an id that counts takes a unit
  have lt {s : Nat} (hs : s < c.n)
      (hd : wPc (st'.pcB s) < wPc (st.pcB s) ∨ wB (st'.carrived s) < wB (st.carrived s) ∨
        wB (st'.hcarrived s) < wB (st.hcarrived s) ∨ wBc (st'.bc s) < wBc (st.bc s) ∨
        wHp (st'.hph s) < wHp (st.hph s)) : muB c st' + 1 ≤ muB c st :=
    rk_drop 1 hs (by have := mono s; show wId st' s + 1 ≤ wId st s; unfold wId; omega) fun j _ => mono' j
  have dPc {s : Nat} (hs : s < c.n) hd := lt hs (.inl hd)
  have dCa {s : Nat} (hs : s < c.n) hd := lt hs (.inr (.inl hd))
  have dHca {s : Nat} (hs : s < c.n) hd := lt hs (.inr (.inr (.inl hd)))
  have dBc {s : Nat} (hs : s < c.n) hd := lt hs (.inr (.inr (.inr (.inl hd))))
  have dHp {s : Nat} (hs : s < c.n) hd := lt hs (.inr (.inr (.inr (.inr hd))))
  have byA (h1 : muA c st'.a + 1 ≤ muA c st.a) :
      mu0 c st' + (if isTick e = true ∨ isExt e = true then 0 else 1) ≤ mu0 c st := by unfold mu0; split <;> omega
  have byB (h1 : muA c st'.a ≤ muA c st.a) (h2 : muB c st' + 1 ≤ muB c st) :
      mu0 c st' + (if isTick e = true ∨ isExt e = true then 0 else 1) ≤ mu0 c st := by unfold mu0; split <;> omega
  have byT (ht : isTick e = true ∨ isExt e = true) (h1 : muA c st'.a ≤ muA c st.a) :
      mu0 c st' + (if isTick e = true ∨ isExt e = true then 0 else 1) ≤ mu0 c st := by
    rw [if_pos ht]; exact Nat.add_le_add h1 le (a := muA c st'.a)
  -- only ids below `c.n` have a run or a broadcast
  have inN {s : Nat} {p : PcB} (hpc : st.pcB s = p) (hp : p ≠ .notBegun := by nofun) : s < c.n :=
    (hinv.pcRange s (hpc ▸ hp)).1
  have bcN {s : Nat} {b : Bc} (hbc : st.bc s = b) (hb : b ≠ .bnone := by nofun) : s < c.n :=
    (hinv.didSdRange s (hinv.didSd_of_bc (hbc ▸ hb))).1
  cases h
  case tick => exact byT (.inl rfl) (Nat.le_refl _)
  case extCancel ha => exact byT (.inr rfl) (muA_stepA hn ha)
  case grantJob ha _ | bodyEnd ha | cancelAck ha | waitReturn _ _ ha | reactCritical _ _ _ _ ha
      | reactSuccess _ _ _ _ _ ha | reactTimeout _ _ _ _ _ _ ha | reactGo _ _ _ _ _ _ ha | orchFail _ _ _ ha
      | tidyFinish _ _ _ _ _ ha | sdWaitInline _ _ _ _ _ _ ha | sdTidyInline _ _ _ _ _ _ ha =>
    exact byA (muA_stepA hn ha)
  case runBegin ha | grantSched ha _ => exact byA (by rw [beginB_a]; exact muA_stepA hn ha)
  case cancelLoop s _ _ _ _ _ _ hpc ha | timeoutFire s _ hpc _ _ _ _ ha =>
    exact byB (muA_stepA hn ha) (dPc (inN hpc) (by simp [exitLoop, hpc, wPc]))
  case cancelTidy s _ hsn _ _ _ hca _ | cancelShut s _ hsn _ _ _ hca _ | cancelShutTidy s _ hsn _ _ _ hca _ =>
    exact byB (Nat.le_refl _) (dCa hsn (by simp [hca, wB]))
  case tidyShut s _ _ hpc _ _ hsd => exact byB (Nat.le_refl _) (dBc (inN hpc) (by simp [broadcast, (hinv.bcNone s).2 hsd, wBc]))
  case hStep s _ hsn _ _ _ hsd => exact byB (Nat.le_refl _) (dBc hsn (by simp [broadcast, (hinv.bcNone s).2 hsd, wBc]))
  case hStepDone j _ hjn _ hh _ _ | hEnd j _ hjn _ hh _ | hCancelAck j _ hjn _ hh _ =>
    exact byB (Nat.le_refl _) (dHp hjn (by simp [hh, wHp]))
  case hCancelWait s _ hsn _ _ _ hca _ | hCancelTidy s _ hsn _ _ _ hca _ =>
    exact byB (Nat.le_refl _) (dHca hsn (by simp [hca, wB]))
  case sdTimeoutInline s _ hbc _ _ _ _ _ | sdTimeoutOther s _ hbc _ _ _ _ _ | sdWaitRelay s _ _ _ _ hbc
      | sdTidyRelay s _ _ _ _ hbc =>
    exact byB (Nat.le_refl _) (dBc (bcN hbc) (by simp [hbc, wBc]))

theorem wX_stepA {c : Cfg} {a a' : StA} {e : EvA} (h : StepA c a e a') : wX a' ≤ wX a := by
  by_cases ho : a.creq 0 = true ∨ (a.ph 0).isDone = true ∨ a.ph 0 = .cancelled
  · have ho' : a'.creq 0 = true ∨ (a'.ph 0).isDone = true ∨ a'.ph 0 = .cancelled := by
      rcases ho with hc | hf
      · cases hc' : a'.creq 0 with
        | true => exact .inl rfl
        | false => exact .inr (creq_drop h 0 hc hc')
      · exact .inr (by rw [ph_final h hf]; exact hf)
    rw [wX, if_pos ho']; exact Nat.zero_le _
  · rw [wX, wX, if_neg ho]; split <;> omega

theorem wX_extCancel {c : Cfg} {a a' : StA} (h : StepA c a .extCancel a') : wX a' + 1 ≤ wX a := by
  cases h with
  | extCancel hph hcr => simp [wX, hph, hcr, Ph.isDone]

theorem wX_stepB {c : Cfg} {st st' : StB} {e : EvB} (h : StepB c st e st') :
    wX st'.a + (if isExt e = true then 1 else 0) ≤ wX st.a := by
  cases hx : isExt e with
  | true =>
    obtain rfl := isExt_iff.1 hx
    cases h with
    | extCancel ha => exact wX_extCancel ha
  | false =>
    rcases h.proj with heq | ⟨ea, _, ha⟩
    · rw [heq]; exact Nat.le_refl _
    · exact wX_stepA ha

theorem mu_step (c : Cfg) (hwf : c.wf = true) (st st' : StB) (e : EvB)
    (hA : InvA c st.a) (hinv : InvB c st) (h : stepB c st e = some st') :
    mu c st' + (if isTick e = true then 0 else 1) ≤ mu c st := by
  have h1 := mu0_step (wf_of hwf).npos hA hinv (.of_stepB h)
  have h2 := wX_stepB (.of_stepB h)
  unfold mu; grind

theorem work_le_mu (c : Cfg) (hwf : c.wf = true) (evs : List EvB) (st0 st : StB)
    (hA : InvA c st0.a) (hB : InvB c st0) (h : acceptB c st0 evs = some st) : work evs + mu c st ≤ mu c st0 :=
  (inv_induction (P := fun evs st => work evs + mu c st ≤ mu c st0) hwf h hA hB (by simp [work])
    fun pre st1 e st2 _ hA1 hB1 hP hs => by
      have := mu_step c hwf st1 st2 e hA1 hB1 hs
      rw [work_snoc]; omega).2.2

/-- C03 (no livelock): every accepted history contains at most `16 * c.n + 16` events other than `tick`
    (each job is started, granted a slot, ended, cancelled, reported, shut down at most once; each scheduler takes
    a bounded number of turns; the outside world cancels the top-level task at most once) -/
theorem bounded_work (c : Cfg) (hwf : c.wf = true) (evs : List EvB) (st : StB)
    (h : acceptB c StB.init evs = some st) : work evs ≤ 16 * c.n + 16 := by
  have h1 := work_le_mu c hwf evs StB.init st (invA_init c) (invB_init c) h
  have h2 := mu_init c
  omega

def extCount (evs : List EvB) : Nat := (evs.filter isExt).length

theorem extCount_snoc (evs : List EvB) (e : EvB) :
    extCount (evs ++ [e]) = extCount evs + (if isExt e = true then 1 else 0) := by
  unfold extCount
  cases hx : isExt e <;> simp [List.filter_append, List.filter, hx]

/-- needs no invariant and no well-formedness: `wX` alone pays for it -/
theorem extCancel_at_most_once (c : Cfg) (evs : List EvB) (st : StB)
    (h : acceptB c StB.init evs = some st) : extCount evs ≤ 1 := by
  have h1 : extCount evs + wX st.a ≤ wX StB.init.a :=
    (isRunB c).induction (P := fun evs st => extCount evs + wX st.a ≤ wX StB.init.a) h (by simp [extCount])
      fun pre st1 e st2 _ hP hs => by
        have := wX_stepB (.of_stepB hs)
        rw [extCount_snoc]; omega
  have := wX_le_one StB.init.a
  omega

end AJ.Proofs.BoundB
