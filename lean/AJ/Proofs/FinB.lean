/-
  Layer B: a run can always still finish (C03, "AG EF over") — from every reachable state in which the top-level run
  has begun, some continuation of the history brings it to its end, whatever happened before (windows, failures,
  cancellations, expiries).
  By induction on the variant `mu` of `BoundB`, which every event other than `tick` makes decrease: while the
  top-level run is not over such an event is enabled.  If something urgent is pending, by `urgent_enabled_internal`; if
  the state is quiet, the descent `ProgB.below` ends on an atomic job whose body is executing or whose shutdown handler
  is pending (`busy_of_reach`), which the environment may end.
-/
import AJ.Proofs.ProgB
import AJ.Proofs.BoundB
namespace AJ.Proofs.FinB
open AJ.Run AJ.Full AJ.Proofs.CoreB AJ.Proofs.ProgB AJ.Proofs.BoundB

theorem work_enabled_internal (c : Cfg) (hwf : c.wf = true) (evs : List EvB) (st : StB)
    (h : acceptB c StB.init evs = some st) (hb : st.pcB 0 ≠ .notBegun) (ho : st.pcB 0 ≠ .over) :
    ∃ e st', internalEv e ∧ stepB c st e = some st' := by
  cases hq : quietB c st with
  | false => exact urgent_enabled_internal c hwf evs st h hq
  | true =>
    have w := CoreA.wf_of hwf
    rcases busy_of_reach hwf h hq hb ho with ⟨j, hjn, hjs, hr⟩ | ⟨j, hjn, hjs, hh⟩
    · exact (en_body w hjn hjs hr).imp fun _ ⟨st', hi, hs⟩ => ⟨st', hi, hs.to_stepB⟩
    · exact (en_handler w hjn hjs hh).imp fun _ ⟨st', hi, hs⟩ => ⟨st', hi, hs.to_stepB⟩

theorem work_enabled (c : Cfg) (hwf : c.wf = true) (evs : List EvB) (st : StB)
    (h : acceptB c StB.init evs = some st) (hb : st.pcB 0 ≠ .notBegun) (ho : st.pcB 0 ≠ .over) :
    ∃ e st', (∀ d, e ≠ .tick d) ∧ stepB c st e = some st' := by
  obtain ⟨e, st', hi, hs⟩ := work_enabled_internal c hwf evs st h hb ho
  exact ⟨e, st', hi.not_tick, hs⟩

theorem finish_of_mu (c : Cfg) (hwf : c.wf = true) :
    ∀ n (evs : List EvB) (st : StB), acceptB c StB.init evs = some st → st.pcB 0 ≠ .notBegun → mu c st < n →
      ∃ evs' st', acceptB c st evs' = some st' ∧ st'.pcB 0 = .over ∧ ∀ e ∈ evs', internalEv e := by
  intro n
  induction n with
  | zero => intro _ _ _ _ hm; omega
  | succ n ih =>
    intro evs st h hb hm
    by_cases ho : st.pcB 0 = .over
    · exact ⟨[], st, rfl, ho, fun _ h => by cases h⟩
    · obtain ⟨e, st1, hi, hs⟩ := work_enabled_internal c hwf evs st h hb ho
      have hmu := mu_step c hwf st st1 e (invA_of_reachB c hwf evs st h) (invB_reach c hwf evs st h) hs
      rw [isTick_false hi.not_tick] at hmu
      simp only [Bool.false_eq_true, if_false] at hmu
      obtain ⟨evs', st', hacc, hov, hint⟩ :=
        ih (evs ++ [e]) st1 ((isRunB c).snoc_some.2 ⟨st, h, hs⟩) ((StepB.of_stepB hs).begun 0 hb) (by omega)
      exact ⟨e :: evs', st', (isRunB c).cons_some.2 ⟨st1, hs, hacc⟩, hov, List.forall_mem_cons.2 ⟨hi, hint⟩⟩

/-- C03: from every reachable state in which `run()` has begun there is a finite continuation — made of events the
    model accepts: reactions of the schedulers, ends of job bodies and shutdown handlers, acknowledgements of
    cancellations — after which the top-level run is over -/
theorem can_always_finish (c : Cfg) (hwf : c.wf = true) (evs : List EvB) (st : StB)
    (h : acceptB c StB.init evs = some st) (hb : st.pcB 0 ≠ .notBegun) :
    ∃ evs' st', acceptB c st evs' = some st' ∧ st'.pcB 0 = .over := by
  obtain ⟨evs', st', h1, h2, _⟩ := finish_of_mu c hwf _ evs st h hb (Nat.lt_succ_self _)
  exact ⟨evs', st', h1, h2⟩

/-- C03: the run needs no help from outside for that, nor the passing of time: the continuation can be chosen without
    any `extCancel` and without any `tick`, whether or not the top-level task was cancelled from outside earlier on -/
theorem can_always_finish_unaided (c : Cfg) (hwf : c.wf = true) (evs : List EvB) (st : StB)
    (h : acceptB c StB.init evs = some st) (hb : st.pcB 0 ≠ .notBegun) :
    ∃ evs' st', acceptB c st evs' = some st' ∧ st'.pcB 0 = .over ∧
      EvB.extCancel ∉ evs' ∧ ∀ d, EvB.tick d ∉ evs' := by
  obtain ⟨evs', st', h1, h2, h3⟩ := finish_of_mu c hwf _ evs st h hb (Nat.lt_succ_self _)
  exact ⟨evs', st', h1, h2, fun hm => (h3 _ hm).not_ext rfl, fun d hm => (h3 _ hm).not_tick d rfl⟩

end AJ.Proofs.FinB
