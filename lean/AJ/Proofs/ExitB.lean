/-
  Layer B: how a run leaves its main loop and what it then reports (C02 success clause, C04, C05, C08, C09,
  C10 a–c): the step theorems, the counting argument, the invariant `ExitInv` (what a recorded exit reason means),
  flags that stick; then the transition of the unrepaired wrapper of defect D21.
-/
import AJ.Proofs.CoreB
namespace AJ.Proofs.ExitB
open AJ.Run AJ.Full AJ.Proofs.CoreA AJ.Proofs.CoreB

theorem loop_exit {c : Cfg} {st st' : StB} {e : EvB} {s : Nat} (hB : InvB c st) (h : StepB c st e st')
    (hloop : st.pcB s = .loop) (hleft : st'.pcB s ≠ .loop) :
    ∃ x, st'.pcB s = .tidy x ∧ ExitReason c st e s x ∧ st'.a = leaveA c st.a s ∧ st'.tbegin s = st.tbegin s ∧
      st'.failT s = (x == .timeout) ∧ st'.failC s = (x == .critical) := by
  match pc_cases h s with
  | .same (pc := h1) .. => exact absurd (h1 ▸ hloop) hleft
  | .begins (was := h1) .. =>
    rw [hB.runPh s (by simp [hloop]) (by simp [hloop]), (hB.pcLoop s).1 hloop] at h1
    simp at h1
  | .leaves x hl hx hr hT hC htb ha =>
    obtain ⟨hfT, hfC⟩ := hB.loop_clear hl
    exact ⟨x, hx, hr, ha, htb, by rw [hT, hfT]; rfl, by rw [hC, hfC]; rfl⟩
  | .moves (move := h1) .. => rw [hloop] at h1; cases h1
  | .ends (exit := h1) .. => simp [hloop, PcB.exitOf] at h1

/-- C05 / C08 / C09: in the very step in which a run leaves its main loop, whatever the reason, `cancel()` is called
    on every unfinished job of it and no job changes phase (nothing is started) -/
theorem exit_cancels_all (c : Cfg) (st st' : StB) (e : EvB) (s : Nat)
    (hB : InvB c st) (h : stepB c st e = some st') (hloop : st.pcB s = .loop) (hleft : st'.pcB s ≠ .loop) :
    (∃ x, st'.pcB s = .tidy x) ∧
    (∀ k ∈ c.children s, (st.a.ph k).live = true → st'.a.creq k = true) ∧
    (∀ k, st'.a.ph k = st.a.ph k) := by
  obtain ⟨x, hx, _, ha, _⟩ := loop_exit hB (.of_stepB h) hloop hleft
  rw [ha]
  exact ⟨⟨x, hx⟩, fun k hk hl => by simp [leaveA, mem_liveChildren, hk, hl], fun k => rfl⟩

/-- C04 / C08: the reason recorded when a run leaves its main loop is the one that occurred: per reason, the event
    that took the run out of its loop and what that event found -/
theorem exit_reason (c : Cfg) (st st' : StB) (e : EvB) (s : Nat) (x : Exit)
    (hB : InvB c st) (h : stepB c st e = some st') (hloop : st.pcB s = .loop) (hx : st'.pcB s = .tidy x) :
    match x with
    | .critical => e = .react s ∧ ∃ D, st.a.rx s = some D ∧ critIn c st.a D = true
    | .success => e = .react s ∧ ∃ D, st.a.rx s = some D ∧ critIn c st.a D = false ∧
        st.nbDone s + (D.filter fun d => !c.forever d).length = nbFinite c s
    | .timeout => ∃ dl, st.deadline s = some dl ∧ dl ≤ st.a.now ∧
        ((e = .timeoutFire s ∧ doneSet c st.a s = []) ∨
         (e = .react s ∧ ∃ D, st.a.rx s = some D ∧ critIn c st.a D = false ∧
            st.nbDone s + (D.filter fun d => !c.forever d).length ≠ nbFinite c s))
    | .cancelled => e = .cancelArrive s
    | .crashed => e = .orchFail s ∧ ∃ D, st.a.rx s = some D := by
  obtain ⟨x', hx', hr, _⟩ := loop_exit hB (.of_stepB h) hloop (by simp [hx])
  rw [hx] at hx'
  cases hx'
  cases x <;> exact hr

theorem react_outcome {c : Cfg} {st st' : StB} {s : Nat} {D : List Nat}
    (h : stepB c st (.react s) = some st') (hrx : st.a.rx s = some D) :
    st'.pcB s =
      if critIn c st.a D = true then .tidy .critical
      else if st.nbDone s + (D.filter fun d => !c.forever d).length = nbFinite c s then .tidy .success
      else if expired (st.deadline s) st.a.now = true then .tidy .timeout
      else .loop := by
  cases StepB.of_stepB h with
  | @reactCritical _ D' a' hpc hD hcp hcrit ha =>
    obtain rfl : D' = D := Option.some.inj (hD.symm.trans hrx)
    simp [hcrit, exitLoop]
  | @reactSuccess _ D' a' hpc hD hcp hcrit hnb ha =>
    obtain rfl : D' = D := Option.some.inj (hD.symm.trans hrx)
    simp [hcrit, hnb, exitLoop]
  | @reactTimeout _ D' a' hpc hD hcp hcrit hnb hexp ha =>
    obtain rfl : D' = D := Option.some.inj (hD.symm.trans hrx)
    simp [hcrit, hnb, hexp, exitLoop]
  | @reactGo _ D' a' hpc hD hcp hcrit hnb hexp ha =>
    obtain rfl : D' = D := Option.some.inj (hD.symm.trans hrx)
    simp [hcrit, hnb, hexp, hpc]

/-- C05: a critical job in the reacted `done` set that raised always makes the run abort -/
theorem critical_aborts (c : Cfg) (st st' : StB) (s : Nat) (D : List Nat)
    (h : stepB c st (.react s) = some st') (hrx : st.a.rx s = some D) (hcrit : critIn c st.a D = true) :
    st'.pcB s = .tidy .critical := by
  rw [react_outcome h hrx, if_pos hcrit]

/-- C09: otherwise, the report of the last non-forever job makes the run end (successfully) -/
theorem last_regular_ends (c : Cfg) (st st' : StB) (s : Nat) (D : List Nat)
    (h : stepB c st (.react s) = some st') (hrx : st.a.rx s = some D) (hcrit : critIn c st.a D = false)
    (hcnt : st.nbDone s + (D.filter fun d => !c.forever d).length = nbFinite c s) :
    st'.pcB s = .tidy .success := by
  rw [react_outcome h hrx, if_neg (by simp [hcrit]), if_pos hcnt]

/-- C08: otherwise again, a reaction at an instant where the deadline is reached makes the run abort on timeout
    (nothing is started), and `failed_time_out()` holds from that very step on -/
theorem expired_reaction_aborts (c : Cfg) (st st' : StB) (s : Nat) (D : List Nat)
    (h : stepB c st (.react s) = some st') (hrx : st.a.rx s = some D) (hcrit : critIn c st.a D = false)
    (hcnt : st.nbDone s + (D.filter fun d => !c.forever d).length ≠ nbFinite c s)
    (hexp : expired (st.deadline s) st.a.now = true) :
    st'.pcB s = .tidy .timeout ∧ st'.failT s = true ∧ (∀ k, st'.a.ph k = st.a.ph k) := by
  have hx : st'.pcB s = .tidy .timeout := by
    rw [react_outcome h hrx, if_neg (by simp [hcrit]), if_neg hcnt, if_pos hexp]
  cases StepB.of_stepB h with
  | reactTimeout _ _ _ _ _ _ ha => exact ⟨hx, by simp [exitLoop], fun k => by simp [exitLoop, ha.leave_eq (.inr rfl)]⟩
  | reactGo hpc => simp [hpc] at hx
  | _ => simp [exitLoop] at hx

/-- C08: a reaction that goes on (starts successors) happens strictly before the deadline -/
theorem react_goes_on_before_deadline (c : Cfg) (st st' : StB) (s : Nat)
    (h : stepB c st (.react s) = some st') (hgo : st'.pcB s = .loop) :
    expired (st.deadline s) st.a.now = false := by
  cases StepB.of_stepB h with
  | reactGo hpc hD hcp hcrit hnb hexp ha => exact hexp
  | _ => simp [exitLoop] at hgo

set_option linter.unusedVariables false in
/-- C08: when its deadline is reached and its main wait has nothing to report, `timeoutFire` is enabled -/
theorem expiry_enabled (c : Cfg) (st : StB) (s : Nat) (dl : Nat) (hA : InvA c st.a) (hB : InvB c st)
    (hwf : c.wf = true) (hloop : st.pcB s = .loop) (hdl : st.deadline s = some dl) (hnow : dl ≤ st.a.now)
    (hD : doneSet c st.a s = []) (hrx : st.a.rx s = none) (hc : cancelPending st s = false) :
    ∃ st', stepB c st (.timeoutFire s) = some st' := by
  have hr := hB.pcRange s (by simp [hloop])
  exact ⟨_, (StepB.timeoutFire hloop hc hrx hD (by simp [expired, hdl, hnow])
    (.leave hr.1 hr.2 ((hB.pcLoop s).1 hloop) fun k hk => mem_liveChildren.1 hk)).to_stepB⟩

/-- C05 / C09: a run that has left its main loop never goes back to it (`InvA` is needed:
    `loop_left_for_good_needs_invA`, in ShutB.lean) -/
theorem loop_left_for_good (c : Cfg) (st st' : StB) (e : EvB) (s : Nat) (hA : InvA c st.a)
    (hB : InvB c st) (h : stepB c st e = some st') (hs : st.pcB s ≠ .loop) (hs2 : st.pcB s ≠ .notBegun) :
    st'.pcB s ≠ .loop ∧ st'.pcB s ≠ .notBegun := by
  refine ⟨?_, (StepB.of_stepB h).begun s hs2⟩
  match pc_cases (.of_stepB h) s with
  | .same (pc := h1) .. => rw [h1]; exact hs
  | .begins (was := h1) .. => exact absurd (hB.notBegun_of_queued hA h1) hs2
  | .leaves (loop := h1) .. => exact absurd h1 hs
  | .moves (move := h1) .. =>
    obtain ⟨_, _, _, hx', _⟩ := h1.exitOf
    intro hn; rw [hn] at hx'; cases hx'
  | .ends (pc := h1) .. => simp [h1]

theorem loop_left_later {c : Cfg} (hwf : c.wf = true) {evs : List EvB} {sta st0 : StB} {s : Nat} (hA : InvA c sta.a)
    (hB : InvB c sta) (h : acceptB c sta evs = some st0) (h1 : sta.pcB s ≠ .loop) (h2 : sta.pcB s ≠ .notBegun) :
    st0.pcB s ≠ .loop ∧ st0.pcB s ≠ .notBegun :=
  (inv_induction hwf h hA hB (P := fun _ st => st.pcB s ≠ .loop ∧ st.pcB s ≠ .notBegun) ⟨h1, h2⟩
    fun _ st1 e st2 _ hA1 hB1 i hs => loop_left_for_good c st1 st2 e s hA1 hB1 hs i.1 i.2).2.2

/-- C04: the diagnosis of a run that is over never changes (`InvA` is needed: `diag_stable_needs_invA`, in
    ShutB.lean) -/
theorem diag_stable (c : Cfg) (st st' : StB) (e : EvB) (s : Nat) (hA : InvA c st.a)
    (hB : InvB c st) (h : stepB c st e = some st') (hover : st.pcB s = .over) :
    st'.pcB s = .over ∧ st'.failT s = st.failT s ∧ st'.failC s = st.failC s ∧ st'.a.ph s = st.a.ph s := by
  have hno : st.pcB s ≠ .notBegun := by simp [hover]
  have hss := (hB.pcRange s hno).2
  have hpo := (hB.pcOver s).1 hover
  have hnb : st.a.pc s ≠ .notBegun := by simp [hpo]
  have hph : st'.a.ph s = st.a.ph s := by
    rcases (StepB.of_stepB h).proj with heq | ⟨ea, _, ha⟩
    · rw [heq]
    · -- a task that moves is idle or queued (its run has not begun), an atomic job, or a run that is exiting
      match ph_cases ha s with
      | .same h1 => exact h1
      | .created (was := h1) .. | .topBegins (was := h1) .. => exact absurd (hA.notBegun s hss (Or.inl h1)) hnb
      | .granted (was := h1) .. | .cancelAcked (was := .inl h1) .. => exact absurd (hA.notBegun s hss (Or.inr h1)) hnb
      | .bodyEnds (atomic := h1) .. | .cancelAcked (was := .inr ⟨_, h1⟩) .. => rw [hss] at h1; cases h1
      | .finished (pcWas := h1) .. => rw [hpo] at h1; cases h1
  match pc_cases (.of_stepB h) s with
  | .same h1 h2 h3 _ => exact ⟨by rw [h1, hover], h2, h3, hph⟩
  | .begins (was := h1) .. => exact absurd (hB.notBegun_of_queued hA h1) hno
  | .leaves (loop := h1) .. | .moves (move := h1) .. => rw [hover] at h1; cases h1
  | .ends (exit := h1) .. => simp [hover, PcB.exitOf] at h1

/-- how `co_run` of `s` comes to be over: it begins with no job, or ends its clean-up with the verdict of the reason
    recorded -/
theorem over_cases {c : Cfg} {st st' : StB} {e : EvB} (h : StepB c st e st') {s : Nat} (hno : st.pcB s ≠ .over)
    (ho : st'.pcB s = .over) :
    (c.children s = [] ∧ (st.a.ph s = .queued ∨ st.a.pc s = .notBegun) ∧ st'.failT s = st.failT s ∧
      st'.failC s = st.failC s) ∨
    ∃ x pick r, (st.pcB s).exitOf = some x ∧ verdict c st s x pick = some r ∧ st'.a.ph s = finPh r ∧
      st'.failT s = st.failT s ∧ st'.failC s = st.failC s := by
  match pc_cases h s with
  | .same (pc := h1) .. => exact absurd (h1 ▸ ho) hno
  | .begins (pc := h1) (failT := hT) (failC := hC) (was := hq) .. =>
    rw [h1] at ho
    split at ho
    next hc => exact Or.inl ⟨by simpa using hc, hq, hT, hC⟩
    next => cases ho
  | .leaves (pc := h1) .. => rw [h1] at ho; cases ho
  | .moves (move := h1) .. => exact absurd ho h1.not_over
  | .ends (x := x) (pick := pick) (r := r) (exit := hx) (verdict := hv) (a := ha) (failT := hT)
      (failC := hC) .. =>
    exact Or.inr ⟨x, pick, r, hx, hv, by rw [ha.finish_ph, setAt_self], hT, hC⟩

/-- C04: the step in which a run with jobs ends reports exactly the reason for which it left its loop:
    value / exception (the very exception object of one of its critical jobs, its own `TimeoutError`, or — whatever
    `critical` says, also for a `PureScheduler` at the top — the exception of its own orchestration when that failed);
    `failed_time_out()` and `failed_critical()` were recorded when the loop was left and are not touched here: after
    exit `cancelled` they tell whether the run had timed out, resp. aborted on a critical failure, before the
    cancellation reached its clean-up -/
theorem verdict_of_exit (c : Cfg) (st st' : StB) (e : EvB) (s : Nat)
    (hB : InvB c st) (h : stepB c st e = some st')
    (hnot : st.pcB s ≠ .over) (hover : st'.pcB s = .over) (hne : c.children s ≠ []) :
    ∃ x, (st.pcB s).exitOf = some x ∧
      st'.failT s = st.failT s ∧ (x = .timeout → st'.failT s = true) ∧
      (st'.failT s = true → x = .timeout ∨ x = .cancelled) ∧
      st'.failC s = st.failC s ∧ (x = .critical → st'.failC s = true) ∧
      (st'.failC s = true → x = .critical ∨ x = .cancelled) ∧
      (match x with
       | .success => st'.a.ph s = .done (.retBool true)
       | .cancelled => st'.a.ph s = .cancelled
       | .crashed => st'.a.ph s = .done (.exc (.orch s))
       | .timeout => st'.a.ph s =
           if nestable c s && c.critical s then .done (.exc (.tmo s)) else .done (.retBool false)
       | .critical =>
           if nestable c s && c.critical s then
             ∃ k ∈ c.children s, c.critical k = true ∧ ∃ ex, st.a.ph k = .done (.exc ex) ∧ st'.a.ph s = .done (.exc ex)
           else st'.a.ph s = .done (.retBool false)) := by
  rcases over_cases (.of_stepB h) hnot hover with ⟨h1, _⟩ | ⟨x, pick, r, hx, hv, hs, hfT, hfC⟩
  · exact absurd h1 hne
  · have hd := hB.diagClear s hnot
    rw [hx] at hd
    refine ⟨x, hx, hfT, ?_, fun hf => by simpa using hd.2 (hfT ▸ hf), hfC, ?_, fun hf => by simpa using hd.1 (hfC ▸ hf), ?_⟩
    · rintro rfl; rw [hfT]; exact hB.failTSet s hx
    · rintro rfl; rw [hfC]; exact hB.failCSet s hx
    · have := verdict_end hv
      rw [hs]
      cases x <;> exact this

set_option linter.unusedVariables false in
/-- C05 / C08 / C09: a run that has left its main loop never starts a job again -/
theorem no_start_outside_loop (c : Cfg) (hwf : c.wf = true) (st st' : StB) (e : EvB) (s : Nat)
    (hA : InvA c st.a) (hB : InvB c st) (h : stepB c st e = some st')
    (hs : st.pcB s ≠ .loop) (hs2 : st.pcB s ≠ .notBegun) :
    ∀ k ∈ c.children s, st.a.ph k = .idle → st'.a.ph k = .idle := by
  intro k hk hi
  obtain ⟨hkn, hk0, hkp⟩ := Run.mem_children.1 hk
  rcases (StepB.of_stepB h).proj with heq | ⟨ea, _, ha⟩
  · rw [heq]; exact hi
  · match ph_cases ha k with
    | .same h1 => exact h1 ▸ hi
    | .created (parent := h1) .. =>
      -- the task of `k` is created by its scheduler `s`: in its loop, or beginning
      rw [hkp] at h1
      rcases h1 with h1 | ⟨_, rfl, h1⟩ | ⟨_, _, h1⟩
      · exact absurd ((hB.pcLoop s).2 h1) hs
      · exact absurd ((hB.pcNotBegun 0).2 h1) hs2
      · exact absurd (hB.notBegun_of_queued hA (Or.inl h1)) hs2
    | .topBegins (top := h1) .. => exact absurd h1 hk0
    | .granted (was := h1) .. | .bodyEnds (was := h1) .. | .finished (was := h1) ..
    | .cancelAcked (was := .inl h1) .. | .cancelAcked (was := .inr ⟨h1, _⟩) .. => rw [h1] at hi; cases hi

/-- how the task of `j` comes to hold the result `r`: an atomic body ends, a scheduler without jobs begins, or the run
    of `j` ends with the verdict of the reason recorded -/
theorem newDone {c : Cfg} {st st' : StB} {e : EvB} (h : StepB c st e st') (j : Nat) (r : Res)
    (hd : st'.a.ph j = .done r) :
    st.a.ph j = .done r ∨ (c.isSched j = false ∧ (r = .retOwn ∨ r = .exc (.byJob j))) ∨
    ((c.children j).isEmpty = true ∧ r = .retBool true) ∨
    (∃ x pick, (st.pcB j).exitOf = some x ∧ verdict c st j x pick = some (some r)) := by
  rcases h.proj with heq | ⟨ea, hp, ha⟩
  · rw [heq] at hd; exact Or.inl hd
  · rcases (HistA.step_done ha j r).1 hd with h1 | ⟨ok, rfl, rfl⟩ | rfl | ⟨rfl, ⟨_, _, he⟩ | ⟨_, rfl, he⟩⟩
    · exact .inl h1
    · exact .inr (.inl ⟨ha.bodyEnd_inv.2.2.1, by cases ok <;> simp⟩)
    · exact .inr (.inr (.inr hp.finish_inv))
    · exact .inr (.inr (.inl ⟨by simp [he], rfl⟩))
    · exact .inr (.inr (.inl ⟨by simp [he], rfl⟩))

theorem true_cases {c : Cfg} {st st' : StB} {e : EvB} (hB : InvB c st) (h : StepB c st e st') {s : Nat}
    (hss : c.isSched s = true) (ht : st'.a.ph s = .done (.retBool true)) :
    (st.a.ph s = .done (.retBool true) ∧ st.pcB s ≠ .loop) ∨ c.children s = [] ∨
      (st.pcB s).exitOf = some .success := by
  rcases newDone h s _ ht with h1 | h1 | h1 | ⟨x, pick, hx, hv⟩
  · refine .inl ⟨h1, fun hl => ?_⟩
    have := hB.runPh s (by simp [hl]) (by simp [hl])
    rw [h1] at this; cases this
  · rw [hss] at h1; cases h1.1
  · exact .inr (.inl (by simpa using h1.1))
  · obtain rfl := verdict_true hv
    exact .inr (.inr hx)

theorem filter_length_eq_imp (l : List Nat) (p q : Nat → Bool) (hpq : ∀ k, p k = true → q k = true)
    (hlen : (l.filter p).length = (l.filter q).length) : ∀ k ∈ l, q k = true → p k = true := by
  have hp : l.filter p = (l.filter q).filter p := by
    rw [List.filter_filter]
    exact List.filter_congr fun k _ => by cases h : p k <;> simp [hpq k, h]
  rw [hp] at hlen
  exact fun k hk hq => List.length_filter_eq_length_iff.1 hlen k (List.mem_filter.2 ⟨hk, hq⟩)

theorem nbFinite_pos {c : Cfg} {s k : Nat} (hk : k ∈ c.children s) (hf : c.forever k = false) : 0 < nbFinite c s :=
  List.length_pos_of_mem (List.mem_filter.2 ⟨hk, by simp [hf]⟩)

/-- the count a reaction arrives at is complete exactly when every regular job has been reported -/
theorem count_complete_iff {c : Cfg} {st : StB} (hA : InvA c st.a) (hB : InvB c st) {s : Nat} {D : List Nat}
    (hl : st.pcB s = .loop) (hD : st.a.rx s = some D) :
    st.nbDone s + (D.filter fun d => !c.forever d).length = nbFinite c s ↔
      ∀ k ∈ c.children s, c.forever k = false → st.a.deliv k = true := by
  have hcr := hB.count_reported hA hl
  simp only [rxD, hD, Option.getD_some] at hcr
  rw [hcr]
  refine ⟨fun hcnt k hk hf => ?_, count_all_reported⟩
  simpa [hf] using filter_length_eq_imp (c.children s) (fun k => !c.forever k && st.a.deliv k) (fun k => !c.forever k)
    (by intro k hk; simp at hk ⊢; exact hk.1) hcnt k hk (by simp [hf])

end AJ.Proofs.ExitB

namespace AJ.Proofs.AdmB
open AJ.Run AJ.Full AJ.Proofs.CoreB

/-- a run in its main loop that has regular (non-`forever`) jobs has not counted them all: the reaction that counts
    the last one leaves the loop -/
def Pending (c : Cfg) (st : StB) : Prop :=
  ∀ s, st.pcB s = .loop → nbFinite c s ≠ 0 → st.nbDone s ≠ nbFinite c s

theorem pending_step {c : Cfg} {st st' : StB} {e : EvB} (h : StepB c st e st') (hp : Pending c st) : Pending c st' := by
  intro s hl hnf
  rcases loop_back h s hl with ⟨hl0, _, _, hnb | hnb⟩ | ⟨_, hnb, _⟩
  · rw [hnb]; exact hp s hl0 hnf
  · exact hnb
  · rw [hnb]; exact fun h0 => hnf h0.symm

theorem pending_reach (c : Cfg) (evs : List EvB) (st : StB) (h : acceptB c StB.init evs = some st) : Pending c st :=
  (isRunB c).invariant h (fun s hl => by simp [StB.init] at hl) fun _ _ _ hp hs => pending_step (.of_stepB hs) hp

/-- some regular job of `s`, given that one exists; some job at all: `ProgB.loop_undelivered` -/
theorem loop_regular_unreported {c : Cfg} {st : StB} (hB : InvB c st) (hG : Pending c st) {s : Nat}
    (hl : st.pcB s = .loop) (hrx : st.a.rx s = none) (hpos : 0 < nbFinite c s) :
    ∃ k ∈ c.children s, c.forever k = false ∧ st.a.deliv k = false :=
  Classical.byContradiction fun hno =>
    hG s hl (Nat.ne_of_gt hpos) (hB.count_full hl hrx fun k hk hf =>
      Bool.of_not_eq_false fun hd => hno ⟨k, hk, hf, hd⟩)

end AJ.Proofs.AdmB

namespace AJ.Proofs.ExitB
open AJ.Run AJ.Full AJ.Proofs.CoreA AJ.Proofs.CoreB

/-- success: every non-forever job has finished and was reported, no reported critical job raised -/
def SuccessMeans (c : Cfg) (a : StA) (s : Nat) : Prop :=
  (∀ k ∈ c.children s, c.forever k = false → (a.ph k).isDone = true ∧ a.deliv k = true) ∧
  (∀ k ∈ c.children s, c.critical k = true → a.deliv k = true → ∀ ex, a.ph k ≠ .done (.exc ex))

/-- what holds, from then on, of a run that left its main loop for reason `x` -/
def ExitMeans (c : Cfg) (st : StB) (s : Nat) : Exit → Prop
  | .success => SuccessMeans c st.a s
  | .critical => ∃ k ∈ c.children s, c.critical k = true ∧ ∃ ex, st.a.ph k = .done (.exc ex)
  | .timeout => ∃ T, c.timeout s = some T ∧ st.tbegin s + T ≤ st.a.now
  | _ => True

/-- no job of a run that has left its loop is reported any more -/
theorem succ_transfer {c : Cfg} {st st' : StB} {e : EvB} (hA : InvA c st.a) (hB : InvB c st) (h : StepB c st e st')
    {s : Nat} (hnl : st.pcB s ≠ .loop) (ho : SuccessMeans c st.a s) : SuccessMeans c st'.a s := by
  refine ⟨fun k hk hf => ?_, fun k hk hc hd ex => ?_⟩
  · have h1 := ho.1 k hk hf
    rw [h.ph_final (Or.inl h1.1)]; exact ⟨h1.1, h.deliv_mono h1.2⟩
  · have hd0 : st.a.deliv k = true := by
      rcases h.deliv_loop hd with h1 | ⟨_, h1⟩
      · exact h1
      · rw [(Run.mem_children.1 hk).2.2] at h1
        exact absurd ((hB.pcLoop s).2 h1) hnl
    rw [h.ph_final (hA.delivFin k hd0)]
    exact ho.2 k hk hc hd0 ex

/-- a step that does not begin the run of `s` anew keeps what the reason tells -/
theorem exitMeans_step {c : Cfg} {st st' : StB} {e : EvB} (hA : InvA c st.a) (hB : InvB c st) (h : StepB c st e st')
    {s : Nat} {x : Exit} (hnl : st.pcB s ≠ .loop) (htb : st'.tbegin s = st.tbegin s) (ho : ExitMeans c st s x) :
    ExitMeans c st' s x := by
  cases x
  · exact succ_transfer hA hB h hnl ho
  · obtain ⟨k, hk, hc, ex, hex⟩ := ho
    exact ⟨k, hk, hc, ex, by rw [h.ph_final (Or.inl (by rw [hex]; rfl)), hex]⟩
  · obtain ⟨T, hT, hle⟩ := ho
    exact ⟨T, hT, by rw [htb]; exact Nat.le_trans hle h.now_le⟩
  · trivial
  · trivial

theorem succ_at_exit (c : Cfg) (st : StB) (s : Nat) (D : List Nat) (hA : InvA c st.a) (hB : InvB c st)
    (hloop : st.pcB s = .loop) (hD : st.a.rx s = some D) (hcrit : critIn c st.a D = false)
    (hcnt : st.nbDone s + (D.filter fun d => !c.forever d).length = nbFinite c s) : SuccessMeans c st.a s := by
  refine ⟨fun k hk hf => ?_, fun k hk hcr hd ex hex => ?_⟩
  · have hd := (count_complete_iff hA hB hloop hD).1 hcnt k hk hf
    exact ⟨(hA.delivFin k hd).resolve_right (hB.loopClean s hloop k hk).2, hd⟩
  · rcases hB.noCrit s hloop k hk hcr ⟨ex, hex⟩ with h1 | h1
    · simp [hd] at h1
    · simp only [rxD, hD, Option.getD_some] at h1
      exact critIn_false hcrit k h1 hcr ex hex

theorem exitMeans_at_exit {c : Cfg} {st : StB} {e : EvB} {s : Nat} {x : Exit} (hA : InvA c st.a) (hB : InvB c st)
    (hl : st.pcB s = .loop) (hr : ExitReason c st e s x) : ExitMeans c st s x := by
  cases x
  · obtain ⟨_, D, hD, hcrit, hcnt⟩ := hr
    exact succ_at_exit c st s D hA hB hl hD hcrit hcnt
  · obtain ⟨_, D, hD, hcrit⟩ := hr
    obtain ⟨d, hd, hc, hex⟩ := critIn_iff.1 hcrit
    obtain ⟨q, hq⟩ := hB.rxSub s D hD
    exact ⟨d, (List.mem_filter.1 (hq ▸ hd)).1, hc, hex⟩
  · -- the deadline was armed as `tbegin + T`
    obtain ⟨dl, hdl, hle, _⟩ := hr
    have := hB.deadlineEq s hl
    rw [hdl] at this
    cases hT : c.timeout s with
    | none => simp [hT] at this
    | some T => exact ⟨T, hT, by simp [hT] at this; omega⟩
  · trivial
  · trivial

/-- what holds, beyond `InvB`, about the reason for which a run left its loop -/
structure ExitInv (c : Cfg) (st : StB) : Prop where
  /-- success: every non-forever job has finished (returned or raised), and no critical job that raised had
      been reported -/
  successMeans : ∀ s, (st.pcB s).exitOf = some .success →
      (∀ k ∈ c.children s, c.forever k = false → (st.a.ph k).isDone = true ∧ st.a.deliv k = true) ∧
      (∀ k ∈ c.children s, c.critical k = true → st.a.deliv k = true → ∀ ex, st.a.ph k ≠ .done (.exc ex))
  criticalMeans : ∀ s, (st.pcB s).exitOf = some .critical →
      ∃ k ∈ c.children s, c.critical k = true ∧ ∃ ex, st.a.ph k = .done (.exc ex)
  timeoutMeans : ∀ s, (st.pcB s).exitOf = some .timeout →
      ∃ T, c.timeout s = some T ∧ st.tbegin s + T ≤ st.a.now
  /-- C02 / C04: a run that ended with `True` has all its non-forever jobs finished (each ran exactly once, by
      `at_most_once`), none of its reported critical jobs raised -/
  trueMeans : ∀ s, s < c.n → c.isSched s = true → st.a.ph s = .done (.retBool true) →
      (∀ k ∈ c.children s, c.forever k = false → (st.a.ph k).isDone = true) ∧
      (∀ k ∈ c.children s, c.critical k = true → st.a.deliv k = true → ∀ ex, st.a.ph k ≠ .done (.exc ex))
  /-- C04 / C08: `failed_time_out()` holds only if the timeout elapsed, `failed_critical()` only if a critical job raised -/
  failTMeans : ∀ s, st.failT s = true → ∃ T, c.timeout s = some T ∧ st.tbegin s + T ≤ st.a.now
  /-- … and `failed_time_out()`, once the run is over, only if the run ended with the verdict of a timeout, or cancelled
      (while the run cleans up: `InvB.diagClear`, `InvB.failTSet`; history form: `failT_iff_timesOut`) -/
  failTOver : ∀ s, st.pcB s = .over → st.failT s = true →
      st.a.ph s = .cancelled ∨
      st.a.ph s = (if nestable c s && c.critical s then .done (.exc (.tmo s)) else .done (.retBool false))
  failCMeans : ∀ s, st.failC s = true → ∃ k ∈ c.children s, c.critical k = true ∧ ∃ ex, st.a.ph k = .done (.exc ex)
  /-- … and `failed_critical()`, once the run is over, only if the run ended with the verdict of a critical failure
      (the exception of one of its critical jobs, or `False`), or cancelled -/
  failCOver : ∀ s, st.pcB s = .over → st.failC s = true →
      st.a.ph s = .cancelled ∨
      (if nestable c s && c.critical s then
         ∃ k ∈ c.children s, c.critical k = true ∧ ∃ ex, st.a.ph k = .done (.exc ex) ∧ st.a.ph s = .done (.exc ex)
       else st.a.ph s = .done (.retBool false))
  /-- C10: where an exception object comes from: an atomic job raises its own; a scheduler re-raises the object
      of one of its critical jobs, or its own `TimeoutError` (both: only if it is critical itself), or raises the
      exception of its own orchestration (critical or not) -/
  excOrigin : ∀ j ex, j < c.n → st.a.ph j = .done (.exc ex) →
      if c.isSched j then
        (ex = .tmo j ∧ c.critical j = true) ∨ ex = .orch j ∨
        (c.critical j = true ∧ ∃ k ∈ c.children j, c.critical k = true ∧ st.a.ph k = .done (.exc ex))
      else ex = .byJob j

/-- `ExitInv.trueMeans` with the reports: every non-forever job of a run that ended with `True` was reported too -/
def TrueSucc (c : Cfg) (st : StB) : Prop :=
  ∀ s, s < c.n → c.isSched s = true → st.a.ph s = .done (.retBool true) → SuccessMeans c st.a s

theorem trueSucc_step {c : Cfg} {st st' : StB} {e : EvB} (hA : InvA c st.a) (hB : InvB c st)
    (hE : ∀ s, (st.pcB s).exitOf = some .success → SuccessMeans c st.a s) (hT : TrueSucc c st)
    (h : StepB c st e st') : TrueSucc c st' := by
  intro s hsn hss ht
  -- `True` is new only as the verdict of a success exit, whose obligation holds since the loop was left
  rcases true_cases hB h hss ht with ⟨h1, hl⟩ | h1 | hx
  · exact succ_transfer hA hB h hl (hT s hsn hss h1)
  · constructor <;> (intro k hk; rw [h1] at hk; cases hk)
  · exact succ_transfer hA hB h (fun hl => by rw [hl] at hx; cases hx) (hE s hx)

theorem diag_clear_before {c : Cfg} {st : StB} (hA : InvA c st.a) (hB : InvB c st) (s : Nat)
    (h : st.a.ph s = .queued ∨ st.a.pc s = .notBegun) : st.failT s = false ∧ st.failC s = false := by
  have hnb := hB.notBegun_of_queued hA h
  exact hB.diag_clear (by rw [hnb]; rfl) (by simp [hnb])

theorem diag_step {c : Cfg} {st st' : StB} {e : EvB} (s : Nat) (hB : InvB c st) (h : StepB c st e st') :
    (st'.failT s = true ↔ st.failT s = true ∨ st'.pcB s = .tidy .timeout) ∧
    (st'.failC s = true ↔ st.failC s = true ∨ st'.pcB s = .tidy .critical) := by
  have keep : ∀ {b b' : Bool} {P : Prop}, b' = b → (P → b = true) → (b' = true ↔ b = true ∨ P) :=
    fun hb hP => by subst hb; exact ⟨Or.inl, fun h => h.elim id hP⟩
  match pc_cases h s with
  | .same (pc := h1) (failT := hT) (failC := hC) .. =>
    rw [h1]
    exact ⟨keep hT fun hx => hB.failTSet s (by rw [hx]; rfl), keep hC fun hx => hB.failCSet s (by rw [hx]; rfl)⟩
  | .begins (pc := h1) (failT := hT) (failC := hC) .. =>
    rw [h1]
    have hno : ∀ y, (if (c.children s).isEmpty then PcB.over else PcB.loop) ≠ .tidy y := by
      intro y; split <;> simp
    exact ⟨keep hT fun hx => absurd hx (hno _), keep hC fun hx => absurd hx (hno _)⟩
  | .leaves (x := x) (loop := hl) (pc := h1) (failT := hT) (failC := hC) .. =>
    rw [h1, hT, hC, (hB.loop_clear hl).1, (hB.loop_clear hl).2]
    cases x <;> simp
  | .moves (move := h1) (failT := hT) (failC := hC) .. =>
    -- the only move into a `tidy` is the delivery of a cancellation
    have hno : ∀ y, st'.pcB s = .tidy y → y = .cancelled := by
      intro y hy
      generalize st.pcB s = p at h1
      rw [hy] at h1
      cases h1; rfl
    exact ⟨keep hT fun hx => Exit.noConfusion (hno _ hx), keep hC fun hx => Exit.noConfusion (hno _ hx)⟩
  | .ends (pc := h1) (failT := hT) (failC := hC) .. =>
    rw [h1]
    exact ⟨keep hT fun hx => PcB.noConfusion hx, keep hC fun hx => PcB.noConfusion hx⟩

theorem exitInv_init (c : Cfg) : ExitInv c StB.init := by
  constructor <;> intros <;> simp_all [StB.init, StA.init, PcB.exitOf]

theorem exitInv_step {c : Cfg} {st st' : StB} {e : EvB} (hA : InvA c st.a) (hB : InvB c st) (hE : ExitInv c st)
    (hT' : TrueSucc c st') (h : StepB c st e st') : ExitInv c st' := by
  have hfin : ∀ k, (st.a.ph k).isDone = true → st'.a.ph k = st.a.ph k :=
    fun k hk => h.ph_final (Or.inl hk)
  have hnl : ∀ s x, (st.pcB s).exitOf = some x → st.pcB s ≠ .loop := by
    intro s x hx hl; rw [hl] at hx; cases hx
  have hE_ob : ∀ s x, (st.pcB s).exitOf = some x → ExitMeans c st s x := by
    intro s x hx
    cases x
    · exact hE.successMeans s hx
    · exact hE.criticalMeans s hx
    · exact hE.timeoutMeans s hx
    · trivial
    · trivial
  -- the reason recorded after the step was recorded before it, or the run has just left its loop for it, or it is
  -- `cancelled`, which tells nothing
  have hob : ∀ s x, (st'.pcB s).exitOf = some x → ExitMeans c st' s x := by
    intro s x hx
    match pc_cases h s with
    | .same (pc := q1) (tbegin := q2) .. => rw [q1] at hx; exact exitMeans_step hA hB h (hnl s x hx) q2 (hE_ob s x hx)
    | .begins (pc := q1) .. => rw [q1] at hx; split at hx <;> cases hx
    | .leaves (x := y) (loop := q0) (pc := q1) (reason := hr) (tbegin := q2) (a := ha) .. =>
      rw [q1] at hx; cases hx
      have := exitMeans_at_exit hA hB q0 hr
      -- `leaveA` changes `pc`, `rx`, `creq` only; `ExitMeans` reads `ph`, `deliv`, `now`, `tbegin`
      cases x <;> simp only [ExitMeans, SuccessMeans, ha, q2] at this ⊢ <;> exact this
    | .moves (move := q1) (tbegin := q2) .. =>
      obtain ⟨y, y', r1, r2, r3⟩ := q1.exitOf
      rw [r2] at hx; cases hx
      rcases r3 with rfl | rfl
      · exact exitMeans_step hA hB h (hnl s _ r1) q2 (hE_ob s _ r1)
      · trivial
    | .ends (pc := q1) .. => rw [q1] at hx; cases hx
  -- a flag that is set was set when the run left its loop: the run does not begin in this step
  have hflag : ∀ s, st.failT s = true ∨ st.failC s = true → st.pcB s ≠ .loop ∧ st'.tbegin s = st.tbegin s := by
    intro s hf
    have hx : (st.pcB s).exitOf ≠ none ∨ st.pcB s = .over := by
      by_cases ho : st.pcB s = .over
      · exact Or.inr ho
      · refine Or.inl fun hx => ?_
        simp [hB.diag_clear hx ho] at hf
    refine ⟨fun hl => by simp [hl, PcB.exitOf] at hx, ?_⟩
    match pc_cases h s with
    | .same (tbegin := q) .. | .moves (tbegin := q) .. | .ends (tbegin := q) .. => exact q
    | .begins (was := q) .. =>
      simp [hB.notBegun_of_queued hA q, PcB.exitOf] at hx
    | .leaves (loop := q) .. => simp [q, PcB.exitOf] at hx
  exact
    { successMeans := fun s => hob s .success
      criticalMeans := fun s => hob s .critical
      timeoutMeans := fun s => hob s .timeout
      trueMeans := fun s hsn hss hd =>
        let ⟨h1, h2⟩ := hT' s hsn hss hd
        ⟨fun k hk hf => (h1 k hk hf).1, h2⟩
      failTMeans := fun s hf => by
        rcases (diag_step s hB h).1.1 hf with h0 | hx
        · exact exitMeans_step (x := .timeout) hA hB h (hflag s (Or.inl h0)).1 (hflag s (Or.inl h0)).2 (hE.failTMeans s h0)
        · exact hob s .timeout (by rw [hx]; rfl)
      failCMeans := fun s hf => by
        rcases (diag_step s hB h).2.1 hf with h0 | hx
        · exact exitMeans_step (x := .critical) hA hB h (hflag s (Or.inr h0)).1 (hflag s (Or.inr h0)).2 (hE.failCMeans s h0)
        · exact hob s .critical (by rw [hx]; rfl)
      failTOver := fun s ho hf => by
        by_cases hnot : st.pcB s = .over
        · obtain ⟨_, hT, _, hp⟩ := diag_stable c st st' e s hA hB h.to_stepB hnot
          rw [hp]; exact hE.failTOver s hnot (hT ▸ hf)
        · rcases over_cases h hnot ho with ⟨_, hq, hT, _⟩ | ⟨x, pick, r, hx, hv, hp, hT, _⟩
          · rw [hT, (diag_clear_before hA hB s hq).1] at hf; cases hf
          · -- the run had left its loop on expiry; a cancellation may have reached its clean-up since
            have hv := verdict_end hv
            rw [hp]
            rcases (hB.diagClear s hnot).2 (hT ▸ hf) with hx' | hx' <;> rw [hx] at hx' <;> cases hx'
            · exact Or.inr hv
            · exact Or.inl hv
      failCOver := fun s ho hf => by
        by_cases hnot : st.pcB s = .over
        · obtain ⟨_, _, hC, hp⟩ := diag_stable c st st' e s hA hB h.to_stepB hnot
          have h1 : _ ∨ EndOf c st.a s (st.a.ph s) .critical := hE.failCOver s hnot (hC ▸ hf)
          rw [hp]; exact h1.imp_right fun h2 => h2.mono hfin
        · rcases over_cases h hnot ho with ⟨_, hq, _, hC⟩ | ⟨x, pick, r, hx, hv, hp, _, hC⟩
          · rw [hC, (diag_clear_before hA hB s hq).2] at hf; cases hf
          · have hv := (verdict_end hv).mono hfin
            rw [hp]
            rcases (hB.diagClear s hnot).1 (hC ▸ hf) with hx' | hx' <;> rw [hx] at hx' <;> cases hx'
            · exact Or.inr hv
            · exact Or.inl hv
      excOrigin := by
        intro j ex hjn hd
        rcases newDone h j _ hd with h1 | h1 | h1 | ⟨x, pick, hx, hv⟩
        · have := hE.excOrigin j ex hjn h1
          split at this
          · rename_i hs
            rw [if_pos hs]
            exact this.imp_right (Or.imp_right fun ⟨h2, k, hk, hkc, hke⟩ =>
              ⟨h2, k, hk, hkc, by rw [hfin k (by rw [hke]; rfl), hke]⟩)
          · rename_i hs
            rw [if_neg hs]; exact this
        · rw [if_neg (by simp [h1.1])]
          rcases h1.2 with h2 | h2
          · cases h2
          · cases h2; rfl
        · simp at h1
        · -- the run of `j` ends raising: by the reason for which it left its loop
          rw [if_pos (hB.pcRange j (by intro hn; rw [hn] at hx; cases hx)).2]
          have hv := (verdict_end hv).mono hfin
          cases x <;> simp only [EndOf, finPh] at hv
          · cases hv
          · split at hv
            · rename_i hc
              obtain ⟨k, hk, hkc, ex', hke, hp⟩ := hv
              cases hp
              exact Or.inr (Or.inr ⟨by simp at hc; exact hc.2, k, hk, hkc, hke⟩)
            · cases hv
          · split at hv <;> cases hv
            rename_i hc
            exact Or.inl ⟨rfl, by simp at hc; exact hc.2⟩
          · cases hv
          · cases hv; exact Or.inr (Or.inl rfl) }

theorem exitInv_trueSucc_reach (c : Cfg) (hwf : c.wf = true) (evs : List EvB) (st : StB)
    (h : acceptB c StB.init evs = some st) : ExitInv c st ∧ TrueSucc c st :=
  reach_induction (P := fun _ st => ExitInv c st ∧ TrueSucc c st) hwf h
    ⟨exitInv_init c, fun s _ _ hs => by simp [StB.init, StA.init] at hs⟩
    fun _ _ _ _ _ hA hB ⟨hE, hT⟩ hs =>
      have hT' := trueSucc_step hA hB hE.successMeans hT (.of_stepB hs)
      ⟨exitInv_step hA hB hE hT' (.of_stepB hs), hT'⟩

theorem exitInv_reach (c : Cfg) (hwf : c.wf = true) (evs : List EvB) (st : StB)
    (h : acceptB c StB.init evs = some st) : ExitInv c st :=
  (exitInv_trueSucc_reach c hwf evs st h).1

theorem trueSucc_reach (c : Cfg) (hwf : c.wf = true) (evs : List EvB) (st : StB)
    (h : acceptB c StB.init evs = some st) : TrueSucc c st :=
  (exitInv_trueSucc_reach c hwf evs st h).2

theorem sticky_iff_sometime {c : Cfg} (hwf : c.wf = true) (F P : StB → Prop) (h0 : ¬ F StB.init)
    (hP0 : ¬ P StB.init) (hstep : ∀ st st' e, InvB c st → stepB c st e = some st' → (F st' ↔ F st ∨ P st'))
    {evs : List EvB} {st : StB} (h : acceptB c StB.init evs = some st) : F st ↔ Sometime c P StB.init evs := by
  refine reach_induction (P := fun evs st => F st ↔ Sometime c P StB.init evs) hwf h ?_ ?_
  · rw [sometime_nil]
    exact ⟨fun hf => absurd hf h0, fun hp => absurd hp hP0⟩
  · intro evs st1 e st2 h1 _ hB ih hs
    rw [hstep st1 st2 e hB hs, ih, sometime_snoc h1 hs]

/-- C04 / C08: in every reachable state — while the run cleans up as well as once it is over, and whatever the
    clean-up ends with (a cancellation by the enclosing scheduler included) — `failed_time_out()` of `s` holds iff the
    run of `s` left its main loop on expiry -/
theorem failT_iff_timesOut (c : Cfg) (hwf : c.wf = true) (evs : List EvB) (st : StB)
    (h : acceptB c StB.init evs = some st) (s : Nat) :
    st.failT s = true ↔ timesOut c s evs :=
  sticky_iff_sometime hwf (fun st => st.failT s = true) (fun st => st.pcB s = .tidy .timeout) (by simp [StB.init])
    (by simp [StB.init]) (fun _ _ _ hB hs => (diag_step s hB (.of_stepB hs)).1) h

/-- C04 / C05: likewise, `failed_critical()` of `s` holds iff the run of `s` left its main loop by a critical failure -/
theorem failC_iff_critOut (c : Cfg) (hwf : c.wf = true) (evs : List EvB) (st : StB)
    (h : acceptB c StB.init evs = some st) (s : Nat) :
    st.failC s = true ↔ critOut c s evs :=
  sticky_iff_sometime hwf (fun st => st.failC s = true) (fun st => st.pcB s = .tidy .critical) (by simp [StB.init])
    (by simp [StB.init]) (fun _ _ _ hB hs => (diag_step s hB (.of_stepB hs)).2) h

/-- C08: T is measured from the beginning of the scheduler's own run, and the run does not stay in its main loop
    beyond `begin + T` -/
theorem timeout_bounds (c : Cfg) (hwf : c.wf = true) (evs : List EvB) (st : StB)
    (h : acceptB c StB.init evs = some st) (s T : Nat) (hloop : st.pcB s = .loop) (hT : c.timeout s = some T) :
    st.deadline s = some (st.tbegin s + T) ∧ st.a.now ≤ st.tbegin s + T := by
  have hB := invB_reach c hwf evs st h
  have h1 : st.deadline s = some (st.tbegin s + T) := by rw [hB.deadlineEq s hloop, hT]; rfl
  exact ⟨h1, (hB.deadlineGe s _ hloop h1).1⟩

/-! ### non-vacuity: the expiry noticed in a reaction

  Scheduler `0` with timeout 3, job `1` (3 time units), job `2` requiring job `1`: the end of `1` is reported at the
  very instant of the deadline; the reaction takes the timeout exit, `failed_time_out()` holds at once, and job `2` is
  never queued. -/

def tmoCfg : Cfg :=
  { n := 3, parent := fun _ => 0, isSched := fun j => j = 0, req := fun j => if j = 2 then [1] else [],
    critical := fun _ => false, forever := fun _ => false, window := fun _ => 0,
    timeout := fun j => if j = 0 then some 3 else none, sdTimeout := fun _ => none, topPure := true }

def tmoEvs : List EvB := [.runBegin, .grant 1, .tick 3, .bodyEnd 1 true, .waitReturn 0, .react 0]

example : tmoCfg.wf = true ∧
    (acceptB tmoCfg StB.init tmoEvs).map (fun st => (st.pcB 0, st.failT 0, st.a.ph 2, st.a.now)) =
      some (.tidy .timeout, true, .idle, 3) ∧
    (acceptB tmoCfg StB.init (tmoEvs ++ [.tidyReturn 0 0, .hEnd 1, .hEnd 2, .sdWaitReturn 0 0])).map
      (fun st => (st.pcB 0, st.failT 0, st.failC 0, st.a.ph 0, st.a.ph 2)) =
      some (.over, true, false, .done (.retBool false), .idle) := by
  decide

example : timesOut tmoCfg 0 tmoEvs :=
  ⟨tmoEvs, _, List.prefix_refl _, rfl, by decide⟩

/- That scheduler nested (`1`, jobs `2` and `3`) beside a critical job `4` that raises meanwhile: the nested run times
   out, is cancelled during its clean-up, ends cancelled, and still reports `failed_time_out()` (D18). -/
def tmoNestCfg : Cfg :=
  { n := 5, parent := fun j => if j = 2 ∨ j = 3 then 1 else 0, isSched := fun j => j = 0 ∨ j = 1,
    req := fun j => if j = 3 then [2] else [],
    critical := fun j => j = 4, forever := fun _ => false, window := fun _ => 0,
    timeout := fun j => if j = 1 then some 3 else none, sdTimeout := fun _ => none, topPure := true }

def tmoNestEvs : List EvB :=
  [.runBegin, .grant 1, .grant 4, .grant 2, .tick 3, .bodyEnd 2 true, .bodyEnd 4 false, .waitReturn 1, .react 1,
   .waitReturn 0, .react 0, .cancelArrive 1, .tidyReturn 1 0, .hEnd 2, .hEnd 3, .sdWaitReturn 1 0]

example : tmoNestCfg.wf = true ∧
    (acceptB tmoNestCfg StB.init (tmoNestEvs.take 9)).map (fun st => (st.pcB 1, st.failT 1)) =
      some (.tidy .timeout, true) ∧
    (acceptB tmoNestCfg StB.init (tmoNestEvs.take 12)).map (fun st => (st.pcB 1, st.failT 1)) =
      some (.tidy .cancelled, true) ∧
    (acceptB tmoNestCfg StB.init tmoNestEvs).map (fun st => (st.pcB 1, st.failT 1, st.failC 1, st.a.ph 1, st.a.ph 3)) =
      some (.over, true, false, .cancelled, .idle) := by
  decide

/-! ### non-vacuity: a critical failure, then a cancellation during the clean-up

  The nested scheduler `1` leaves its loop by a critical failure (job `2`; `failed_critical()` holds at once), is
  cancelled while it waits in `_tidy_tasks` for job `3` (the timeout of `0` expires), ends cancelled, and still reports
  `failed_critical()` (D19). -/

def critNestCfg : Cfg :=
  { n := 4, parent := fun j => if j = 2 ∨ j = 3 then 1 else 0, isSched := fun j => j = 0 ∨ j = 1,
    req := fun _ => [], critical := fun j => j = 2, forever := fun _ => false, window := fun _ => 0,
    timeout := fun j => if j = 0 then some 1 else none, sdTimeout := fun _ => none, topPure := true }

def critNestEvs : List EvB :=
  [.runBegin, .grant 1, .grant 2, .grant 3, .bodyEnd 2 false, .waitReturn 1, .react 1, .tick 1, .timeoutFire 0,
   .cancelArrive 1, .cancelAck 3, .tidyReturn 1 0, .hEnd 2, .hEnd 3, .sdWaitReturn 1 0]

example : critNestCfg.wf = true ∧
    (acceptB critNestCfg StB.init (critNestEvs.take 7)).map (fun st => (st.pcB 1, st.failC 1, st.a.creq 3)) =
      some (.tidy .critical, true, true) ∧
    (acceptB critNestCfg StB.init (critNestEvs.take 9)).map (fun st => (st.pcB 0, st.pcB 1, st.failC 1, st.a.ph 3)) =
      some (.tidy .timeout, .tidy .critical, true, .running) ∧
    (acceptB critNestCfg StB.init (critNestEvs.take 10)).map (fun st => (st.pcB 1, st.failC 1)) =
      some (.tidy .cancelled, true) ∧
    (acceptB critNestCfg StB.init critNestEvs).map (fun st => (st.pcB 1, st.failC 1, st.failT 1, st.a.ph 1, st.a.ph 3)) =
      some (.over, true, false, .cancelled, .cancelled) := by
  decide

example : critOut critNestCfg 1 critNestEvs :=
  ⟨critNestEvs.take 7, _, List.take_prefix _ _, rfl, by decide⟩

/-! ### non-vacuity: the orchestration itself fails

  Where a reaction was due the orchestration of the nested, non-critical scheduler `1` fails (`orchFail 1`): nothing
  is counted, `cancel()` is called on its job `3`, no diagnosis is set; the wrapper `co_run()` waits for `3`
  (`tidyReturn 1` is not enabled before `cancelAck 3`) and shuts `2` and `3` down. -/

def orchCfg : Cfg :=
  { n := 5, parent := fun j => if j = 2 ∨ j = 3 then 1 else 0, isSched := fun j => j = 0 ∨ j = 1,
    req := fun j => if j = 4 then [1] else [],
    critical := fun _ => false, forever := fun _ => false, window := fun _ => 0,
    timeout := fun _ => none, sdTimeout := fun _ => none, topPure := true }

def orchEvs : List EvB :=
  [.runBegin, .grant 1, .grant 2, .grant 3, .tick 1, .bodyEnd 2 true, .waitReturn 1, .orchFail 1, .tick 2, .cancelAck 3,
   .tidyReturn 1 0, .hEnd 2, .hEnd 3, .sdWaitReturn 1 0, .waitReturn 0, .react 0, .grant 4, .bodyEnd 4 true,
   .waitReturn 0, .react 0, .tidyReturn 0 0, .hStep 1, .hEnd 4, .sdWaitReturn 0 0]

example : orchCfg.wf = true ∧
    (acceptB orchCfg StB.init (orchEvs.take 8)).map (fun st => (st.pcB 1, st.a.creq 3, st.a.ph 3, st.nbDone 1)) =
      some (.tidy .crashed, true, .running, 0) ∧
    (acceptB orchCfg StB.init (orchEvs.take 8)).map (fun st => (st.failT 1, st.failC 1, st.a.ph 4)) =
      some (false, false, .idle) ∧
    (acceptB orchCfg StB.init (orchEvs.take 9 ++ [.tidyReturn 1 0])).isNone = true ∧
    (acceptB orchCfg StB.init (orchEvs.take 11)).map (fun st => (st.pcB 1, st.a.ph 3, st.hcalls 2, st.hcalls 3)) =
      some (.shut .crashed, .cancelled, 1, 1) := by
  decide

/-- the run of `1` then ends raising its own exception object `.orch 1`, although `1` is not critical; for `0` that is a
    non-critical job that raised: it goes on, starts `4` (which requires `1`) only now, and ends well, every job shut
    down exactly once -/
example :
    (acceptB orchCfg StB.init (orchEvs.take 14)).map (fun st => (st.pcB 1, st.a.ph 1, st.failT 1, st.failC 1)) =
      some (.over, .done (.exc (.orch 1)), false, false) ∧
    (acceptB orchCfg StB.init (orchEvs.take 14)).map (fun st => (st.a.ph 3, st.hph 2, st.hph 3, st.a.ph 4, st.a.now)) =
      some (.cancelled, .hdone, .hdone, .idle, 3) ∧
    (acceptB orchCfg StB.init (orchEvs.take 16)).map (fun st => (st.pcB 0, st.a.ph 4)) = some (.loop, .queued) ∧
    (acceptB orchCfg StB.init orchEvs).map
      (fun st => (st.pcB 0, st.a.ph 0, st.a.ph 1, (List.range 5).map st.hcalls)) =
      some (.over, .done (.retBool true), .done (.exc (.orch 1)), [0, 1, 1, 1, 1]) := by
  decide

/-- the same failure in a critical nested scheduler makes the enclosing (critical) `Scheduler` abort and re-raise that
    very object; at the top, a `PureScheduler` raises it too -/
example :
    (acceptB { orchCfg with critical := fun j => j = 0 ∨ j = 1, topPure := false } StB.init
      (orchEvs.take 16 ++ [.tidyReturn 0 1, .hStep 1, .hEnd 4, .sdWaitReturn 0 1])).map
      (fun st => (st.pcB 0, st.failC 0, st.a.ph 0, st.a.ph 4)) =
      some (.over, true, .done (.exc (.orch 1)), .idle) ∧
    (acceptB { orchCfg with n := 3, parent := fun _ => 0, isSched := fun j => j = 0 } StB.init
      [.runBegin, .grant 1, .grant 2, .bodyEnd 1 true, .waitReturn 0, .orchFail 0, .cancelAck 2, .tidyReturn 0 0,
       .hEnd 1, .hEnd 2, .sdWaitReturn 0 0]).map (fun st => (st.pcB 0, st.a.ph 0, st.a.ph 2)) =
      some (.over, .done (.exc (.orch 0)), .cancelled) := by
  decide

/-- a cancellation by the enclosing scheduler delivered while the crashed run is shutting its jobs down: the run ends
    cancelled (the `CancelledError` replaces the exception the wrapper was about to re-raise) -/
example :
    (acceptB { orchCfg with critical := fun j => j = 4, req := fun _ => [] } StB.init
      [.runBegin, .grant 1, .grant 4, .grant 2, .grant 3, .bodyEnd 2 true, .waitReturn 1, .orchFail 1, .cancelAck 3,
       .tidyReturn 1 0, .bodyEnd 4 false, .waitReturn 0, .react 0, .cancelArrive 1, .hCancelAck 2, .hCancelAck 3,
       .sdTidyReturn 1 0]).map (fun st => (st.pcB 1, st.a.ph 1, st.hcalls 2, st.hcalls 3, st.hph 2)) =
      some (.over, .cancelled, 1, 1, .hcancelled) := by
  decide

/-! ### why the wrapper needs `try … finally` (D21)

  `stepB` lets a cancellation delivered during the `_tidy_tasks` of a crashed run be followed by the shutdown
  broadcast (`.tidy .crashed` → `.tidy .cancelled`, see CRASHED-TIDY in `Model/Full.lean`): that is the wrapper
  `co_run()` with `co_shutdown()` in the `finally` of a `try` around `_tidy_tasks`.  With the two `await`s merely in
  sequence (defect D21), `_tidy_tasks` re-raises the `CancelledError` inside the `except` clause, before
  `co_shutdown()`, and the run ends cancelled at once: `stepBAsIs` is `stepB` with exactly that difference.  In the
  history below it leaves the run of `1` over with none of its jobs shut down (`InvB.overDid`, hence
  `ShutB.shutdown_once_at_end` / C13, fail there; they are, later, through the relay of the broadcast of `0`), where
  `stepB` leads into the shutdown broadcast. -/

def stepBAsIs (c : Cfg) (st : StB) : EvB → Option StB
  | .cancelArrive s =>
    if st.pcB s = .tidy .crashed then
      if 0 < s ∧ s < c.n ∧ c.isSched s = true ∧ st.a.ph s = .running ∧ st.a.creq s = true ∧ st.carrived s = false then
        some { st with carrived := setAt st.carrived s true }
      else none
    else stepB c st (.cancelArrive s)
  | .tidyReturn s pick =>
    if st.pcB s = .tidy .crashed ∧ st.carrived s = true then
      if liveChildren c st.a s = [] then finishRun c st s .cancelled pick else none
    else stepB c st (.tidyReturn s pick)
  | e => stepB c st e

def acceptBAsIs (c : Cfg) : StB → List EvB → Option StB
  | st, [] => some st
  | st, e :: es => match stepBAsIs c st e with
    | some st' => acceptBAsIs c st' es
    | none => none

def asIsCfg : Cfg := { orchCfg with critical := fun j => j = 4, req := fun _ => [] }

def asIsEvs : List EvB :=
  [.runBegin, .grant 1, .grant 4, .grant 2, .grant 3, .bodyEnd 2 true, .waitReturn 1, .orchFail 1,
   .bodyEnd 4 false, .waitReturn 0, .react 0, .cancelArrive 1, .cancelAck 3, .tidyReturn 1 0]

example : asIsCfg.wf = true ∧
    (acceptBAsIs asIsCfg StB.init asIsEvs).map (fun st => (st.pcB 1, st.a.ph 1, st.didSd 1, st.hcalls 2, st.hcalls 3)) =
      some (.over, .cancelled, false, 0, 0) ∧
    (acceptB asIsCfg StB.init asIsEvs).map (fun st => (st.pcB 1, st.a.ph 1, st.didSd 1, st.hcalls 2, st.hcalls 3)) =
      some (.shut .cancelled, .running, true, 1, 1) ∧
    (acceptBAsIs asIsCfg StB.init
        (asIsEvs ++ [.tidyReturn 0 4, .hStep 1, .hEnd 4, .hEnd 2, .hEnd 3, .sdWaitReturn 1 0, .sdWaitReturn 0 4])).map
      (fun st => (st.pcB 0, (List.range 5).map st.hcalls)) = some (.over, [0, 1, 1, 1, 1]) := by
  decide

/-! ### non-vacuity: the top-level run cancelled from outside

  While the top-level scheduler `0` waits in its main loop somebody outside calls `cancel()` on the task running
  `0.co_run()` (`extCancel`): only `creq 0` changes, but time may not pass and the main wait may not return before the
  `CancelledError` is delivered (`cancelArrive 0`: its guard has no `0 < s`). -/

def extCfg : Cfg :=
  { n := 3, parent := fun _ => 0, isSched := fun j => j = 0, req := fun _ => [],
    critical := fun _ => false, forever := fun _ => false, window := fun _ => 0,
    timeout := fun _ => none, sdTimeout := fun _ => none, topPure := true }

def extEvs : List EvB :=
  [.runBegin, .grant 1, .grant 2, .tick 1, .extCancel, .cancelArrive 0, .cancelAck 2, .tick 2, .cancelAck 1,
   .tidyReturn 0 0, .hEnd 1, .hEnd 2, .sdWaitReturn 0 0]

example : extCfg.wf = true ∧
    (acceptB extCfg StB.init (extEvs.take 5)).map
      (fun st => (st.pcB 0, st.a.ph 0, st.a.creq 0, st.carrived 0, st.a.creq 1, st.a.creq 2)) =
      some (.loop, .running, true, false, false, false) ∧
    (acceptB extCfg StB.init (extEvs.take 5)).map (fun st => quietB extCfg st) = some false ∧
    (acceptB extCfg StB.init (extEvs.take 5 ++ [.tick 1])).isNone = true ∧
    (acceptB extCfg StB.init (extEvs.take 4 ++ [.bodyEnd 2 true, .extCancel, .waitReturn 0])).isNone = true := by
  decide

/-- at most one request, none before `run()` begins; its delivery takes the run out of its loop for reason `cancelled`,
    and `cancel()` is called on `1` and `2` -/
example :
    (acceptB extCfg StB.init (extEvs.take 5 ++ [.extCancel])).isNone = true ∧
    (acceptB extCfg StB.init (extEvs.take 6 ++ [.extCancel])).isNone = true ∧
    (acceptB extCfg StB.init [.extCancel]).isNone = true ∧
    (acceptB extCfg StB.init (extEvs.take 6)).map
      (fun st => (st.pcB 0, st.carrived 0, st.a.creq 1, st.a.creq 2, st.a.ph 1, st.a.ph 2)) =
      some (.tidy .cancelled, true, true, true, .running, .running) := by
  decide

/-- the clean-up waits for `1`, which acknowledges two units of time later; then the shutdown broadcast -/
example :
    (acceptB extCfg StB.init (extEvs.take 8 ++ [.tidyReturn 0 0])).isNone = true ∧
    (acceptB extCfg StB.init (extEvs.take 10)).map
      (fun st => (st.pcB 0, st.a.ph 1, st.a.ph 2, st.hph 1, st.hph 2, st.a.now)) =
      some (.shut .cancelled, .cancelled, .cancelled, .hactive, .hactive, 3) := by
  decide

/-- the top-level task ends cancelled, every job shut down exactly once, no diagnosis; nobody can cancel it then -/
example :
    (acceptB extCfg StB.init extEvs).map (fun st => (st.pcB 0, st.a.ph 0, st.a.creq 0, st.hph 1, st.hph 2)) =
      some (.over, .cancelled, false, .hdone, .hdone) ∧
    (acceptB extCfg StB.init extEvs).map (fun st => (List.range 3).map st.hcalls) = some [0, 1, 1] ∧
    (acceptB extCfg StB.init extEvs).map (fun st => (st.failT 0, st.failC 0, st.sdValue 0)) =
      some (false, false, some true) ∧
    (acceptB extCfg StB.init (extEvs ++ [.extCancel])).isNone = true := by
  decide

/-- the same with a critical `Scheduler` at the top: it ends cancelled too (no conversion of the verdict) -/
example :
    (acceptB { extCfg with topPure := false, critical := fun j => j = 0 } StB.init extEvs).map
      (fun st => (st.pcB 0, st.a.ph 0, (List.range 3).map st.hcalls)) = some (.over, .cancelled, [0, 1, 1]) := by
  decide

/-- the `extCancel` comes while `0` is already in its shutdown phase, after a normal end (reason `success`, handler of
    `1` still pending): the `CancelledError` is raised out of the wait of `co_shutdown()`, which cancels the pending
    handler, waits for it, and re-raises: the run that had succeeded ends cancelled (not `True`), `co_shutdown()` did
    not return `True`; every job was shut down exactly once -/
def extSdEvs : List EvB :=
  [.runBegin, .grant 1, .grant 2, .tick 1, .bodyEnd 1 true, .bodyEnd 2 true, .waitReturn 0, .react 0, .tidyReturn 0 0,
   .hEnd 2, .tick 1, .extCancel, .cancelArrive 0, .hCancelAck 1, .sdTidyReturn 0 0]

example :
    (acceptB extCfg StB.init (extSdEvs.take 11)).map (fun st => (st.pcB 0, st.bc 0, st.hph 1, st.hph 2)) =
      some (.shut .success, .bwait .inline, .hactive, .hdone) ∧
    (acceptB extCfg StB.init (extSdEvs.take 12 ++ [.tick 1])).isNone = true ∧
    (acceptB extCfg StB.init (extSdEvs.take 12 ++ [.hEnd 1, .sdWaitReturn 0 0])).isNone = true ∧
    (acceptB extCfg StB.init (extSdEvs.take 13)).map (fun st => (st.pcB 0, st.bc 0, st.hcreq 1, st.hcreq 2)) =
      some (.shutTidy .cancelled, .btidy .inline, true, false) := by
  decide

example :
    (acceptB extCfg StB.init extSdEvs).map (fun st => (st.pcB 0, st.a.ph 0, st.a.ph 1, st.a.ph 2)) =
      some (.over, .cancelled, .done .retOwn, .done .retOwn) ∧
    (acceptB extCfg StB.init extSdEvs).map (fun st => (st.hph 1, st.hph 2)) = some (.hcancelled, .hdone) ∧
    (acceptB extCfg StB.init extSdEvs).map (fun st => (List.range 3).map st.hcalls) = some [0, 1, 1] ∧
    (acceptB extCfg StB.init extSdEvs).map (fun st => (st.failT 0, st.failC 0, st.sdValue 0, st.a.now)) =
      some (false, false, some false, 2) := by
  decide

end AJ.Proofs.ExitB

namespace AJ.Proofs.Gap1
open AJ.Run AJ.Full AJ.Proofs.CoreA AJ.Proofs.CoreB AJ.Proofs.ExitB AJ.Proofs.AdmB

/-- C08: a run that owns a non-forever job leaves its loop by timeout only while one of its non-forever jobs has
    not been reported -/
theorem timeout_means_unreported (c : Cfg) (hwf : c.wf = true) (evs : List EvB) (e : EvB) (s : Nat) (st0 st : StB)
    (h0 : acceptB c StB.init evs = some st0) (h1 : stepB c st0 e = some st)
    (hloop : st0.pcB s = .loop) (hx : st.pcB s = .tidy .timeout) (hpos : 0 < nbFinite c s) :
    ∃ k ∈ c.children s, c.forever k = false ∧ st0.a.deliv k = false := by
  have hA := invA_of_reachB c hwf evs st0 h0
  have hB := invB_reach c hwf evs st0 h0
  obtain ⟨_, _, _, hr⟩ := exit_reason c st0 st e s .timeout hB h1 hloop hx
  rcases hr with ⟨rfl, _⟩ | ⟨_, D, hD, _, hcnt⟩
  · -- nothing to report at the expiry: were every regular job counted, the run would have left its loop
    cases StepB.of_stepB h1 with
    | timeoutFire _ _ hrx => exact loop_regular_unreported hB (pending_reach c evs st0 h0) hloop hrx hpos
  · -- were every regular job reported, those being reacted to would complete the count: a success
    exact Classical.byContradiction fun hno => hcnt ((count_complete_iff hA hB hloop hD).2 fun k hk hf =>
      Bool.of_not_eq_false fun hd => hno ⟨k, hk, hf, hd⟩)

/-- C04 ("if" half of the verdict iff) / C08: when the run of a scheduler that owns a non-forever job leaves its
    main loop on expiry, one of its non-forever jobs is not "finished and reported" (had they all been, in time, the
    run would have left its loop with a success or a critical failure) -/
theorem timeout_exit_unfinished (c : Cfg) (hwf : c.wf = true) (evs : List EvB) (e : EvB) (s : Nat) (st0 st : StB)
    (h0 : acceptB c StB.init evs = some st0) (h1 : stepB c st0 e = some st)
    (hloop : st0.pcB s = .loop) (hx : st.pcB s = .tidy .timeout)
    (hreg : ∃ k ∈ c.children s, c.forever k = false) :
    ∃ k ∈ c.children s, c.forever k = false ∧ ¬ ((st0.a.ph k).isDone = true ∧ st0.a.deliv k = true) := by
  obtain ⟨k0, hk0, hf0⟩ := hreg
  obtain ⟨k, hk, hf, hd⟩ := timeout_means_unreported c hwf evs e s st0 st h0 h1 hloop hx (nbFinite_pos hk0 hf0)
  exact ⟨k, hk, hf, fun h => by rw [hd] at h; exact absurd h.2 (by simp)⟩

/-- how a run that had jobs can be over (`verdict_true_iff`, from right to left) -/
def OverInv (c : Cfg) (st : StB) : Prop :=
  ∀ s, st.pcB s = .over → c.children s ≠ [] →
    st.a.ph s = .done (.retBool true) ∨ st.a.ph s = .cancelled ∨ st.a.ph s = .done (.exc (.orch s)) ∨
    st.failT s = true ∨ st.failC s = true

theorem overInv_reach (c : Cfg) (hwf : c.wf = true) (evs : List EvB) (st : StB)
    (h : acceptB c StB.init evs = some st) : OverInv c st := by
  refine reach_induction (P := fun _ st => OverInv c st) hwf h (fun s hs => by simp [StB.init] at hs) ?_
  intro _ st e st' _ hA hB hO hs s hover hne
  by_cases hnot : st.pcB s = .over
  · obtain ⟨_, h2, h3, h4⟩ := diag_stable c st st' e s hA hB hs hnot
    rw [h2, h3, h4]; exact hO s hnot hne
  · obtain ⟨x, _, _, hT, _, _, hC, _, hv⟩ := verdict_of_exit c st st' e s hB hs hnot hover hne
    cases x
    · exact .inl hv
    · exact .inr (.inr (.inr (.inr (hC rfl))))
    · exact .inr (.inr (.inr (.inl (hT rfl))))
    · exact .inr (.inl hv)
    · exact .inr (.inr (.inl hv))

set_option linter.unusedVariables false in
/-- C04, the verdict iff: the run of a scheduler that owns a job, once over, has returned `True` if and only if it
    did not leave its main loop on expiry, did not leave it on a critical failure, did not end cancelled and did not
    raise the exception of its own orchestration (with `failT_iff_timesOut` / `failC_iff_critOut`: iff neither
    `failed_time_out()` nor `failed_critical()` holds, and the run was neither cancelled nor crashed) -/
theorem verdict_true_iff (c : Cfg) (hwf : c.wf = true) (evs : List EvB) (st : StB)
    (h : acceptB c StB.init evs = some st) (s : Nat) (hs : s < c.n) (hsch : c.isSched s = true)
    (hover : st.pcB s = .over) (hne : c.children s ≠ []) :
    st.a.ph s = .done (.retBool true) ↔
      ¬ timesOut c s evs ∧ ¬ critOut c s evs ∧ st.a.ph s ≠ .cancelled ∧ st.a.ph s ≠ .done (.exc (.orch s)) := by
  have hE := exitInv_reach c hwf evs st h
  rw [← failT_iff_timesOut c hwf evs st h s, ← failC_iff_critOut c hwf evs st h s]
  constructor
  · intro ht
    refine ⟨?_, ?_, by simp [ht], by simp [ht]⟩
    · intro hf
      rcases hE.failTOver s hover hf with h1 | h1
      · rw [ht] at h1; cases h1
      · rw [ht] at h1; split at h1 <;> cases h1
    · intro hf
      rcases hE.failCOver s hover hf with h1 | h1
      · rw [ht] at h1; cases h1
      · split at h1
        · obtain ⟨k, _, _, ex, _, h2⟩ := h1
          rw [ht] at h2; cases h2
        · rw [ht] at h1; cases h1
  · rintro ⟨h1, h2, h3, h4⟩
    rcases overInv_reach c hwf evs st h s hover hne with h | h | h | h | h
    · exact h
    · exact absurd h h3
    · exact absurd h h4
    · exact absurd h h1
    · exact absurd h h2

/-- C02 / C04: a run that returned `True` has each of its non-forever jobs granted a slot exactly once in the
    history, finished by its own means (returned or raised — not cancelled), and — if critical — returned: a critical
    non-forever job did not raise, reported or not -/
theorem true_means_each_once (c : Cfg) (hwf : c.wf = true) (evs : List EvB) (st : StB)
    (h : acceptB c StB.init evs = some st) (s : Nat) (hs : s < c.n) (hsch : c.isSched s = true)
    (ht : st.a.ph s = .done (.retBool true)) :
    ∀ k ∈ c.children s, c.forever k = false →
      (evs.filter fun e => match e with | .grant j => j == k | _ => false).length = 1 ∧
      (st.a.ph k).isDone = true ∧ (c.critical k = true → ∀ ex, st.a.ph k ≠ .done (.exc ex)) := by
  intro k hk hf
  obtain ⟨hreg, hcrit⟩ := trueSucc_reach c hwf evs st h s hs hsch ht
  obtain ⟨hdone, hdel⟩ := hreg k hk hf
  refine ⟨?_, hdone, fun hc => hcrit k hk hc hdel⟩
  obtain ⟨evsA, hacc, hcnt⟩ := acceptB_begins c evs StB.init st h
  have hk0 : k ≠ 0 := (Run.mem_children.1 hk).2.1
  have hfil : (evs.filter fun e => match e with | .grant j => j == k | _ => false) = evs.filter (beginsEvB k) :=
    List.filter_congr fun e _ => by cases e <;> simp [beginsEvB, hk0]
  rw [hfil, ← hcnt k]
  exact (HistA.ghost_reach c evsA st.a hacc).once_of_begun ((invA_of_reachB c hwf evs st h).rflagOn k (Or.inr hdone))

theorem cancelled_left_loop (c : Cfg) (hwf : c.wf = true) (evs : List EvB) (st : StB)
    (h : acceptB c StB.init evs = some st) (s : Nat) (hc : st.carrived s = true) :
    st.pcB s ≠ .loop ∧ st.pcB s ≠ .notBegun := by
  refine reach_induction (P := fun _ st => st.carrived s = true → st.pcB s ≠ .loop ∧ st.pcB s ≠ .notBegun) hwf h
    (by simp [StB.init]) ?_ hc
  intro _ st e st' _ hA hB hC hs hc
  rcases carrived_cases (.of_stepB hs) s with h1 | ⟨_, _, _, h1⟩
  · obtain ⟨h2, h3⟩ := hC (h1 ▸ hc)
    exact loop_left_for_good c st st' e s hA hB hs h2 h3
  · constructor <;> (intro hp; rw [hp] at h1; cases h1)

/-- C04 (`why()` is a function of the two flags and shows only one of them): `failed_time_out()` and
    `failed_critical()` of a scheduler never hold together — a run leaves its main loop once, for one reason -/
theorem diag_exclusive (c : Cfg) (hwf : c.wf = true) (evs : List EvB) (st : StB)
    (h : acceptB c StB.init evs = some st) (s : Nat) : ¬ (st.failT s = true ∧ st.failC s = true) := by
  refine reach_induction (P := fun _ st => ¬ (st.failT s = true ∧ st.failC s = true)) hwf h (by simp [StB.init]) ?_
  rintro _ st e st' _ _ hB hD hs ⟨hT, hC⟩
  -- the flags change only when the run leaves its loop: both clear before, each set by its own reason
  match pc_cases (.of_stepB hs) s with
  | .same (failT := q1) (failC := q2) .. | .begins (failT := q1) (failC := q2) .. | .moves (failT := q1) (failC := q2) ..
  | .ends (failT := q1) (failC := q2) .. => exact hD ⟨q1 ▸ hT, q2 ▸ hC⟩
  | .leaves (x := x) (loop := hl) (failT := q1) (failC := q2) .. =>
    rw [q1, (hB.loop_clear hl).1] at hT
    rw [q2, (hB.loop_clear hl).2] at hC
    cases x <;> simp at hT hC

set_option linter.unusedVariables false in
/-- C05 ("starts no further job", body entry): once the run of `s` has left its main loop — for whatever reason —
    no body of a job of `s` begins any more (`ExitB.no_start_outside_loop` says that no task is created; this says
    that no queued task is granted a slot) -/
theorem no_body_begins_outside_loop (c : Cfg) (hwf : c.wf = true) (st st' : StB) (e : EvB) (s : Nat)
    (hA : InvA c st.a) (hB : InvB c st) (h : stepB c st e = some st')
    (hs : st.pcB s ≠ .loop) (hs2 : st.pcB s ≠ .notBegun) :
    ∀ k ∈ c.children s, st.a.ph k ≠ .running → st'.a.ph k ≠ .running := by
  intro k hk hnr hr
  rcases (StepB.of_stepB h).proj with heq | ⟨ea, _, ha⟩
  · rw [heq] at hr; exact hnr hr
  · -- a task becomes `running` by `grant` only: from `queued`, no cancellation pending
    rcases ph_running ha hr with h1 | ⟨_, h1, h2⟩ | ⟨_, h1, _⟩
    · exact hnr h1
    · exact hs (hB.loop_of_live hA hk (by rw [h1]; rfl) h2)
    · exact (Run.mem_children.1 hk).2.1 h1

/-- C05 ("without waiting for any other job's normal completion"): once the run of `s` has left its main loop and is
    cleaning up or shutting down, no body of a job of `s` ends normally (returns or raises) any more: every unfinished
    job of `s` has a cancellation pending, and can only acknowledge it -/
theorem no_normal_end_after_exit (c : Cfg) (st : StB) (s : Nat) (hB : InvB c st) (hx : (st.pcB s).exiting = true) :
    ∀ k ∈ c.children s, ∀ ok, stepB c st (.bodyEnd k ok) = none := by
  refine fun k hk ok => Option.eq_none_iff_forall_ne_some.2 fun st' hs => ?_
  obtain ⟨_, _, _, hph, hcr⟩ := (StepB.of_stepB hs).bodyEnd_inv
  have := hB.exitCancelled s hx k hk (by rw [hph]; rfl)
  rw [hcr] at this; cases this

/-- … nor once the run of `s` is over (none of its jobs is unfinished then) -/
theorem no_normal_end_when_over (c : Cfg) (st : StB) (s : Nat) (hB : InvB c st) (hx : st.pcB s = .over) :
    ∀ k ∈ c.children s, ∀ ok, stepB c st (.bodyEnd k ok) = none := by
  refine fun k hk ok => Option.eq_none_iff_forall_ne_some.2 fun st' hs => ?_
  have := hB.overQuiet s hx k hk
  rw [(StepB.of_stepB hs).bodyEnd_inv.2.2.2.1] at this; cases this

end AJ.Proofs.Gap1

namespace AJ.Proofs.Gap2
open AJ.Run AJ.Full AJ.Proofs.CoreB AJ.Proofs.ExitB

/-- C08 "finish strictly before T ⇒ no effect", one-step core: `Gap1.timeout_means_unreported`, under the name the
    property file C08 lists -/
theorem timeout_means_unreported (c : Cfg) (hwf : c.wf = true) (evs : List EvB) (e : EvB) (s : Nat) (st0 st : StB)
    (h0 : acceptB c StB.init evs = some st0) (h1 : stepB c st0 e = some st)
    (hloop : st0.pcB s = .loop) (hx : st.pcB s = .tidy .timeout) (hpos : 0 < nbFinite c s) :
    ∃ k ∈ c.children s, c.forever k = false ∧ st0.a.deliv k = false :=
  Gap1.timeout_means_unreported c hwf evs e s st0 st h0 h1 hloop hx hpos

/-- C08/C09: a job whose cancellation has been requested (`creq`) never begins its body: `grant j` is refused. -/
theorem creq_blocks_grant (c : Cfg) (st st' : StB) (j : Nat) (h : stepB c st (.grant j) = some st') :
    st.a.creq j = false :=
  (StepB.of_stepB h).grant_inv.2.2.2.1

/-- C08/C09, history form: in a reachable state a job obtains a window slot (its body begins) only while its own
    scheduler is in its main loop — never once that scheduler has started to leave it. -/
theorem grant_only_in_loop (c : Cfg) (hwf : c.wf = true) (evs : List EvB) (st st' : StB) (j : Nat) (hj : 0 < j)
    (h : acceptB c StB.init evs = some st) (hg : stepB c st (.grant j) = some st') : st.pcB (c.parent j) = .loop := by
  obtain ⟨_, hjn, hq, hcr, _⟩ := (StepB.of_stepB hg).grant_inv
  exact (invB_reach c hwf evs st h).loop_of_live (invA_of_reachB c hwf evs st h)
    (Run.mem_children.2 ⟨hjn, Nat.ne_of_gt hj, rfl⟩) (by rw [hq]; rfl) hcr

/-- C10 (b)/(c): a scheduler leaves its main loop for reason "critical failure" only if one of its own CRITICAL jobs
    (atomic or nested scheduler) has raised: a failed non-critical job — in particular a non-critical nested
    scheduler whose run failed — never makes its parent abort. -/
theorem noncritical_contained (c : Cfg) (hwf : c.wf = true) (evs : List EvB) (e : EvB) (p : Nat) (st0 st : StB)
    (h0 : acceptB c StB.init evs = some st0) (h1 : stepB c st0 e = some st)
    (hl : st0.pcB p = .loop) (hx : st.pcB p = .tidy .critical) :
    ∃ k ∈ c.children p, c.critical k = true ∧ ∃ ex, st0.a.ph k = .done (.exc ex) := by
  have hB := invB_reach c hwf evs st0 h0
  exact exitMeans_at_exit (x := .critical) (invA_of_reachB c hwf evs st0 h0) hB hl
    (exit_reason c st0 st e p .critical hB h1 hl hx)

/-- C08/C10 scope of cancellation: in one step, `cancel()` is newly requested on the task of job `k` only (i) from
    outside, on the top-level run (`extCancel`, `k = 0`), or (ii) by `k`'s own scheduler `parent k`, in the very step
    in which that scheduler leaves its main loop.  No other scheduler, and no later phase (`co_shutdown` cancels
    handlers, not job tasks), ever cancels a job's task. -/
theorem cancel_scope (c : Cfg) (st st' : StB) (e : EvB) (k : Nat) (h : stepB c st e = some st')
    (h0 : st.a.creq k = false) (h1 : st'.a.creq k = true) :
    (k = 0 ∧ e = .extCancel) ∨ (0 < k ∧ st.pcB (c.parent k) = .loop ∧ st'.pcB (c.parent k) ≠ .loop) := by
  rcases (StepB.of_stepB h).creq_cases k with h2 | h2 | ⟨h2, h3⟩ | ⟨s, x, hl, hx, hk⟩
  · rw [h2, h0] at h1; cases h1
  · rw [h2] at h1; cases h1
  · exact Or.inl ⟨h3, h2⟩
  · obtain ⟨_, hk0, hkp⟩ := Run.mem_children.1 (mem_liveChildren.1 hk).1
    exact Or.inr ⟨Nat.pos_of_ne_zero hk0, by rw [hkp]; exact hl, by rw [hkp, hx]; simp⟩

end AJ.Proofs.Gap2
