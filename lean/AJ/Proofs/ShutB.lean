/-
  Layer B: shutdown reaches every job exactly once, in bounded time (C13); once a run is over nothing it started
  is still running, or runs later (C11).  Both rest on `SdInv` and on one descent through the scheduler tree: the jobs
  of a `Settled` scheduler are `AtRest`, and the nested schedulers among them are `Settled` in turn.
-/
import AJ.Proofs.ExitB
namespace AJ.Proofs.ShutB
open AJ.Run AJ.Full AJ.Proofs.CoreA AJ.Proofs.CoreB

theorem inline_of_not_hactive {c : Cfg} {st : StB} (hB : InvB c st) {s : Nat} {w : Who} (hh : st.hph s ≠ .hactive)
    (hb : st.bc s = .bwait w ∨ st.bc s = .btidy w) : w = .inline := by
  cases w
  · rfl
  · exact absurd (hB.bcRelay s (relayActive_iff.2 hb)).1 hh

theorem not_inline {c : Cfg} {st : StB} (hB : InvB c st) {s : Nat} (hpc : st.pcB s = .notBegun ∨ st.pcB s = .over) :
    st.bc s ≠ .bwait .inline ∧ st.bc s ≠ .btidy .inline := by
  constructor <;> intro hb
  · obtain ⟨x, hx⟩ := (hB.bcInlineWait s).1 hb; rcases hpc with h | h <;> rw [h] at hx <;> cases hx
  · obtain ⟨x, hx⟩ := (hB.bcInlineTidy s).1 hb; rcases hpc with h | h <;> rw [h] at hx <;> cases hx

theorem bc_idle {c : Cfg} {st : StB} (hB : InvB c st) {s : Nat} (hpc : st.pcB s = .notBegun ∨ st.pcB s = .over)
    (hh : st.hph s ≠ .hactive) : st.bc s = .bnone ∨ st.bc s = .bover := by
  obtain ⟨h1, h2⟩ := not_inline hB hpc
  cases hb : st.bc s with
  | bnone => exact Or.inl rfl
  | bover => exact Or.inr rfl
  | bwait w => cases inline_of_not_hactive hB hh (Or.inl hb); exact absurd hb h1
  | btidy w => cases inline_of_not_hactive hB hh (Or.inr hb); exact absurd hb h2

theorem bover_stable {c : Cfg} {st st' : StB} {e : EvB} (hB : InvB c st) (h : StepB c st e st') {s : Nat}
    (hb : st.bc s = .bover) : st'.bc s = .bover := by
  match bc_cases h s with
  | .same (bc := h1) .. => exact h1 ▸ hb
  | .begins (didSdWas := hd) .. => rw [(hB.bcNone s).2 hd] at hb; cases hb
  | .givenUp (by_ := hg) .. => rw [hg.wait hB] at hb; cases hb
  | .ends (bc := h1) .. => exact h1

theorem handler_untouched {c : Cfg} {st st' : StB} {e : EvB} (hB : InvB c st) (h : StepB c st e st') {s k : Nat}
    (hk : k ∈ c.children s) (hd : st.didSd s = true) (hna : st.hph k ≠ .hactive) :
    st'.hph k = st.hph k ∧ st'.hcreq k = st.hcreq k := by
  match hph_cases h k with
  | .same (hph := h1) (hcreq := h2) .. => exact ⟨h1, h2⟩
  | .created (child := hk') (didSd := hd') .. => rw [← children_inj hk hk', hd] at hd'; cases hd'
  | .cancelled (was := h1) .. | .cancelArrives (was := h1) .. => exact absurd h1 hna
  | .ends (by_ := he) .. => exact absurd (he.active hB) hna

set_option linter.unusedVariables false in
/-- C13: `co_shutdown()` is sent to a job only when no job of the same scheduler is unfinished -/
theorem shutdown_when_quiet (c : Cfg) (hwf : c.wf = true) (st st' : StB) (e : EvB) (k : Nat)
    (hA : InvA c st.a) (hB : InvB c st) (h : stepB c st e = some st') (hk : st'.hcalls k ≠ st.hcalls k) :
    0 < k ∧ k < c.n ∧ st'.hcalls k = 1 ∧ ∀ k' ∈ c.children (c.parent k), (st.a.ph k').live = false := by
  rcases hcalls_cases (.of_stepB h) k with h1 | ⟨s, w, hks, hby, hd, h1⟩
  · exact absurd h1 hk
  obtain ⟨hkn, hk0, hkp⟩ := Run.mem_children.1 hks
  refine ⟨by omega, hkn, by rw [h1, (hB.hph_none_of_didSd hks hd).1], ?_⟩
  rw [hkp]
  cases w with
  | inline => obtain ⟨_, _, _, _, hl⟩ := hby; exact liveChildren_nil hl
  | relay =>
    obtain ⟨_, _, _, _, hsh⟩ := hby
    intro k' hk'
    rcases hB.relayed_idle (s := s) (by simp [hsh]) with hnb | hov
    · simp [hA.childrenIdle ((hB.pcNotBegun s).1 hnb) k' hk', Ph.live]
    · exact hB.overQuiet s hov k' hk'

set_option linter.unusedVariables false in
/-- C13: once `_did_shutdown` is set, a later `co_shutdown()` sends nothing more -/
theorem shutdown_idempotent (c : Cfg) (hwf : c.wf = true) (st st' : StB) (e : EvB) (s : Nat)
    (hA : InvA c st.a) (hB : InvB c st) (h : stepB c st e = some st') (hdid : st.didSd s = true) :
    ∀ k ∈ c.children s, st'.hcalls k = st.hcalls k :=
  hcalls_guarded (.of_stepB h) hdid

/-- C13: the bounded wait of the shutdown phase lasts at most `shutdown_timeout` -/
theorem shutdown_bounded (c : Cfg) (hwf : c.wf = true) (evs : List EvB) (st : StB)
    (h : acceptB c StB.init evs = some st) (s T : Nat) (hw : (st.bc s).isWait = true)
    (hT : c.sdTimeout s = some T) : st.tsd s ≤ st.a.now ∧ st.a.now ≤ st.tsd s + T := by
  have hB := invB_reach c hwf evs st h
  have := hB.hdeadlineGe s (st.tsd s + T) hw (by rw [hB.hdeadlineEq s hw, hT]; rfl)
  exact ⟨this.2, this.1⟩

/-- C13: at expiry the handlers still pending are cancelled, at that instant -/
theorem shutdown_expiry_cancels (c : Cfg) (st st' : StB) (s : Nat)
    (h : stepB c st (.sdTimeoutFire s) = some st') :
    (∀ k ∈ c.children s, st.hph k = .hactive → st'.hcreq k = true) ∧ (st'.bc s).isTidy = true ∧ st'.a.now = st.a.now := by
  cases StepB.of_stepB h <;>
    exact ⟨fun k hk hh => by simp [mem_activeHandlers, hk, hh], by simp [Bc.isTidy], rfl⟩

/-- C13: `co_shutdown()` reports `True` iff no handler had to be cancelled: the value `some true` is produced only
    by `sdWaitReturn` (all handlers done within the bounded wait), `some false` only by `sdTidyReturn` -/
theorem sdvalue_truthful (c : Cfg) (st st' : StB) (e : EvB) (s : Nat) (b : Bool)
    (h : stepB c st e = some st') (hv : st'.sdValue s = some b) (hchg : st.sdValue s ≠ some b) :
    (b = true → ∃ p, e = .sdWaitReturn s p) ∧ (b = false → ∃ p, e = .sdTidyReturn s p) := by
  match sdValue_cases (.of_stepB h) s with
  | .same h1 => exact absurd (h1 ▸ hv) hchg
  | .none h1 => rw [h1] at hv; cases hv
  | .waitReturns (p := p) (ev := he) (sdValue := h1) .. => rw [h1] at hv; cases hv; exact ⟨fun _ => ⟨p, he⟩, nofun⟩
  | .tidyReturns (p := p) (ev := he) (sdValue := h1) .. => rw [h1] at hv; cases hv; exact ⟨nofun, fun _ => ⟨p, he⟩⟩

/-- C11: a run that is over stays over.  With `InvB` alone the statement is false (`overCexSt`, `overCex_invB`
    below): `InvB` does not say that the task of a scheduler whose run is over is not `queued` (that is
    `InvA.notBegun`), and `grant` would then begin the run again. -/
theorem over_is_final (c : Cfg) (st st' : StB) (e : EvB) (s : Nat) (hA : InvA c st.a)
    (hB : InvB c st) (h : stepB c st e = some st') (hover : st.pcB s = .over) : st'.pcB s = .over :=
  (ExitB.diag_stable c st st' e s hA hB h hover).1

/-- a handler of `s` ended cancelled or has a `cancel()` standing -/
def Canc (c : Cfg) (st : StB) (s : Nat) : Prop :=
  ∃ k ∈ c.children s, st.hph k = .hcancelled ∨ st.hcreq k = true

/-- why a `co_shutdown()` of `s` went, or is going, through its clean-up `_tidy_tasks(pending)` -/
def FalseCause (c : Cfg) (st : StB) (s : Nat) : Prop :=
  Canc c st s ∨ st.carrived s = true ∨ st.hcarrived s = true

/-- what holds, beyond `InvB`, in every reachable state, of the handlers and of the broadcasts -/
structure SdInv (c : Cfg) (st : StB) : Prop where
  relayDone : ∀ k, c.isSched k = true → (st.hph k = .hdone ∨ st.hph k = .hcancelled) → st.didSd k = true
  overBc : ∀ s, st.pcB s = .over → c.children s ≠ [] → st.bc s = .bover
  carr : ∀ k, st.hcarrived k = true → st.hph k ≠ .hnone
  wait : ∀ s w, st.bc s = .bwait w → ∀ k ∈ c.children s,
    st.hcreq k = false ∧ st.hcarrived k = false ∧ (st.hph k = .hactive ∨ st.hph k = .hdone)
  val : ∀ s b, st.sdValue s = some b → st.bc s = .bover
  valTrue : ∀ s, st.sdValue s = some true → ∀ k ∈ c.children s, st.hph k = .hdone ∧ st.hcreq k = false
  falseCause : ∀ s, ((st.bc s).isTidy = true ∨ st.sdValue s = some false) → FalseCause c st s

theorem sdInv_init (c : Cfg) : SdInv c StB.init := by
  constructor <;> intros <;> simp_all [StB.init, Bc.isTidy]

theorem canc_step {c : Cfg} {st st' : StB} {e : EvB} (hB : InvB c st) (h : StepB c st e st') {s : Nat}
    (hd : st.didSd s = true) (hc : Canc c st s) : Canc c st' s := by
  obtain ⟨k, hk, hkc⟩ := hc
  refine ⟨k, hk, ?_⟩
  match hph_cases h k with
  | .same (hph := h1) (hcreq := h2) .. => rw [h1, h2]; exact hkc
  | .created (child := hk') (didSd := hd') .. => rw [← children_inj hk hk', hd] at hd'; cases hd'
  | .cancelled (hcreq := h2) .. | .cancelArrives (hcreq := h2) .. => exact Or.inr h2
  | .ends (by_ := he) .. =>
    rcases hkc with hkc | hkc
    · rw [he.active hB] at hkc; cases hkc
    · exact he.honoured hkc

theorem sdInv_step {c : Cfg} {st st' : StB} {e : EvB} (hB : InvB c st) (hB' : InvB c st') (hS : SdInv c st)
    (h : StepB c st e st') : SdInv c st' where
  relayDone k hs hd := by
    rcases hph_moves h k with h1 | h1 | he
    · exact didSd_mono h (hS.relayDone k hs (h1 ▸ hd))
    · simp [h1] at hd
    · -- a relay ends at once because there was a broadcast before, or at the end of the one it made
      refine didSd_mono h ?_
      match he with
      | .atomic (atomic := h1) .. => rw [hs] at h1; cases h1
      | .relaySkips (didSd := h1) .. => exact h1
      | .relayWaitReturns (bc := h1) .. | .relayTidyReturns (bc := h1) .. => exact hB.didSd_of_bc (by simp [h1])
  overBc s ho hne := by
    match pc_cases h s with
    | .same (pc := h1) .. => exact bover_stable hB h (hS.overBc s (h1 ▸ ho) hne)
    | .begins (pc := h1) .. => rw [h1, if_neg (by simpa using hne)] at ho; cases ho
    | .leaves (pc := h1) .. => rw [h1] at ho; cases ho
    | .moves (move := hm) .. => exact absurd ho hm.not_over
    | .ends (exit := hx) .. =>
      -- the run ends: it has shut down, and its broadcast, if still going on, would be that of a relay; but its
      -- task was running until now: nothing was relayed to it
      have hn : st.hph s = .hnone := Classical.byContradiction fun hne => by
        rcases hB.relayed_idle hne with h0 | h0 <;> simp [h0, PcB.exitOf] at hx
      obtain ⟨hsn, hss⟩ := hB'.pcRange s (by simp [ho])
      have hd' := hB'.overDid s hsn hss ho hne
      have hn' : st'.bc s ≠ .bnone := fun hb => by rw [(hB'.bcNone s).1 hb] at hd'; cases hd'
      obtain ⟨hw', ht'⟩ := not_inline hB' (Or.inr ho)
      have hrel : ∀ w, st.bc s = .bwait w ∨ st.bc s = .btidy w → w = .inline :=
        fun w => inline_of_not_hactive hB (by simp [hn])
      match bc_cases h s with
      | .same (bc := h1) .. =>
        cases hb : st.bc s with
        | bnone => exact absurd (h1.trans hb) hn'
        | bover => exact h1.trans hb
        | bwait w => cases hrel w (Or.inl hb); exact absurd (h1.trans hb) hw'
        | btidy w => cases hrel w (Or.inr hb); exact absurd (h1.trans hb) ht'
      | .begins (w := w) (by_ := hby) (bc := h1) .. =>
        cases w
        · exact absurd h1 hw'
        · obtain ⟨_, _, _, _, hh⟩ := hby
          rw [hn] at hh; cases hh
      | .givenUp (w := w) (bc := h1) (by_ := hg) .. => cases hrel w (Or.inl (hg.wait hB)); exact absurd h1 ht'
      | .ends (bc := h1) .. => exact h1
  carr k hc := by
    match hph_cases h k with
    | .same (hph := h1) (hcarrived := h3) .. => rw [h1]; exact hS.carr k (h3 ▸ hc)
    | .created (hph := h1) .. | .cancelled (hph := h1) .. | .cancelArrives (hph := h1) .. => simp [h1]
    | .ends (by_ := he) .. => rcases he.final with h1 | h1 <;> simp [h1]
  wait s w hw k hk := by
    match bc_cases h s with
    | .same (bc := h1) .. =>
      -- the wait goes on: a handler of it may end, nothing else happens to it
      obtain ⟨p1, p2, p3⟩ := hS.wait s w (h1 ▸ hw) k hk
      have hd := hB.didSd_of_bc (s := s) (by rw [← h1, hw]; simp)
      match hph_cases h k with
      | .same a1 a2 a3 _ => rw [a1, a2, a3]; exact ⟨p1, p2, p3⟩
      | .created (child := hk') (didSd := hd') .. => rw [← children_inj hk hk', hd] at hd'; cases hd'
      | .cancelled (child := hk') (bc := hb') .. => rw [← children_inj hk hk', hw] at hb'; cases hb'
      | .cancelArrives (creqWas := a2) .. => rw [p1] at a2; cases a2
      | .ends (by_ := he) (hcarrived := a3) .. =>
        refine ⟨he.standing p1, a3 ▸ p2, ?_⟩
        rcases he.final with h2 | h2
        · exact Or.inr h2
        · rw [h2] at he; rcases he.cancelled with h3 | h3 <;> simp_all
    | .begins (didSdWas := hd) (handlers := hch) .. =>
      -- it begins: the handlers are new (none has a `CancelledError` behind it: none existed)
      obtain ⟨q1, q2, q3, _⟩ := hch k hk
      refine ⟨q2, ?_, Or.inl q1⟩
      rw [q3]
      cases hc : st.hcarrived k
      · rfl
      · exact absurd (hB.hph_none_of_didSd hk hd).2 (hS.carr k hc)
    | .givenUp (bc := h1) .. | .ends (bc := h1) .. => rw [h1] at hw; cases hw
  val s b hv := by
    match sdValue_cases h s with
    | .same h1 => exact bover_stable hB h (hS.val s b (h1 ▸ hv))
    | .none h1 => rw [h1] at hv; cases hv
    | .waitReturns (bc := h1) .. | .tidyReturns (bc := h1) .. => exact h1
  valTrue s hv k hk := by
    -- when the bounded wait returned every handler had ended, none cancelled; since then none was touched
    have pre : st.didSd s = true ∧ st.hph k = .hdone ∧ st.hcreq k = false := by
      match sdValue_cases h s with
      | .same h1 =>
        have hv0 := h1 ▸ hv
        exact ⟨hB.didSd_of_bc (by simp [hS.val s _ hv0]), hS.valTrue s hv0 k hk⟩
      | .none h1 | .tidyReturns (sdValue := h1) .. => rw [h1] at hv; cases hv
      | .waitReturns (w := w) (was := hb) (quiet := hact) .. =>
        obtain ⟨p1, _, p3⟩ := hS.wait s w hb k hk
        exact ⟨hB.didSd_of_bc (by simp [hb]), p3.resolve_left (activeHandlers_nil hact k hk), p1⟩
    obtain ⟨h1, h2⟩ := handler_untouched hB h hk pre.1 (by simp [pre.2.1])
    rw [h1, h2]; exact pre.2
  falseCause s hn := by
    have hwas : ((st.bc s).isTidy = true ∨ st.sdValue s = some false) ∨
        ∃ w, GivenUp c st e st' s w ∧ ∀ k ∈ c.children s, st.hph k = .hactive → st'.hcreq k = true := by
      match bc_cases h s with
      | .same (bc := h1) (sdValue := h2) .. =>
        refine Or.inl (hn.imp (fun hn => h1 ▸ hn) fun hn => ?_)
        rcases h2 with h2 | ⟨_, h2⟩
        · exact h2 ▸ hn
        · rw [h2] at hn; cases hn
      | .begins (bc := h1) (sdValue := h2) .. =>
        exact Or.inl (hn.imp (fun hn => by simp [h1, Bc.isTidy] at hn) fun hn => h2 ▸ hn)
      | .givenUp (w := w) (handlers := hk) (by_ := hg) .. => exact Or.inr ⟨w, hg, hk⟩
      | .ends (bc := h1) (value := h2) .. =>
        rcases h2 with ⟨_, _, h2⟩ | ⟨_, hb, _⟩
        · rcases hn with hn | hn
          · simp [h1, Bc.isTidy] at hn
          · rw [h2] at hn; cases hn
        · exact Or.inl (Or.inl (by simp [hb, Bc.isTidy]))
    rcases hwas with hold | ⟨w, hg, hk⟩
    · -- the cause was there, and causes stay
      have hd : st.didSd s = true := by
        rcases hold with ho | ho
        · exact hB.didSd_of_bc fun hb => by simp [hb, Bc.isTidy] at ho
        · exact hB.didSd_of_bc (by simp [hS.val s _ ho])
      rcases hS.falseCause s hold with hc | hc | hc
      · exact Or.inl (canc_step hB h hd hc)
      · refine Or.inr (Or.inl ?_)
        rcases carrived_cases h s with h1 | h1
        · exact h1 ▸ hc
        · exact h1.2.2.1
      · exact Or.inr (Or.inr (hcarrived_mono h hc))
    -- the step that begins the clean-up brings the cause
    · match hg with
      | .expires (pending := hact) .. =>
        obtain ⟨k, hkm⟩ := List.exists_mem_of_ne_nil _ hact
        obtain ⟨hkc, hka⟩ := mem_activeHandlers.1 hkm
        exact Or.inl ⟨k, hkc, Or.inr (hk k hkc hka)⟩
      | .runCancelled (carrived := hc) .. => exact Or.inr (Or.inl hc)
      | .relayCancelled (hcarrived := hc) .. => exact Or.inr (Or.inr hc)

theorem sdInv_reach (c : Cfg) (hwf : c.wf = true) (evs : List EvB) (st : StB)
    (h : acceptB c StB.init evs = some st) : SdInv c st :=
  reach_induction (P := fun _ st => SdInv c st) hwf h (sdInv_init c) fun _ st1 e st2 _ hA hB hS hs =>
    sdInv_step hB (invB_step c hwf st1 st2 e hA hB hs) hS (.of_stepB hs)

/-- the scheduler has shut down, for good -/
structure Settled (st : StB) (s : Nat) : Prop where
  didSd : st.didSd s = true
  bover : st.bc s = .bover
  notRunning : st.pcB s = .notBegun ∨ st.pcB s = .over

/-- what holds of a job below a settled scheduler, at any depth (`settled_desc`) -/
structure AtRest (c : Cfg) (st : StB) (d : Nat) : Prop where
  once : st.hcalls d = 1
  notLive : (st.a.ph d).live = false
  handlerEnded : st.hph d = .hdone ∨ st.hph d = .hcancelled
  settled : c.isSched d = true → Settled st d

theorem not_hactive_of_bover {c : Cfg} {st : StB} (hB : InvB c st) {s k : Nat} (hk : k ∈ c.children s)
    (hb : st.bc s = .bover) : st.hph k ≠ .hactive := fun h => by
  obtain ⟨hkn, hk0, hkp⟩ := Run.mem_children.1 hk
  have := hB.hactiveBc k (by omega) hkn h
  simp [hkp, hb, Bc.isWait, Bc.isTidy] at this

theorem settled_child {c : Cfg} {st : StB} (hB : InvB c st) (hS : SdInv c st) {s k : Nat}
    (hs : Settled st s) (hk : k ∈ c.children s) : AtRest c st k := by
  obtain ⟨hkn, hk0, hkp⟩ := Run.mem_children.1 hk
  have hk0 : 0 < k := by omega
  have hc1 : st.hcalls k = 1 := (hB.hcallsDid k hk0 hkn).2 (hkp ▸ hs.didSd)
  have hna := not_hactive_of_bover hB hk hs.bover
  have hnn : st.hph k ≠ .hnone := fun h => by have := (hB.hphNone k).1 h; omega
  have hdc : st.hph k = .hdone ∨ st.hph k = .hcancelled := by cases hh : st.hph k <;> simp [hh] at hna hnn ⊢
  refine ⟨hc1, hB.sdQuiet s hs.didSd k hk, hdc, fun hks => ?_⟩
  have hdk := hS.relayDone k hks hdc
  have hpc := hB.relayed_idle hnn
  refine ⟨hdk, (bc_idle hB hpc hna).resolve_left fun h => ?_, hpc⟩
  rw [(hB.bcNone k).1 h] at hdk; cases hdk

/-- `d` is a job of the subtree of scheduler `s`, at any depth -/
inductive DescOf (c : Cfg) : Nat → Nat → Prop
  | child {s k : Nat} : k ∈ c.children s → DescOf c s k
  | deeper {s k d : Nat} : k ∈ c.children s → DescOf c k d → DescOf c s d

theorem descOf_first {c : Cfg} {s d : Nat} (h : DescOf c s d) : ∃ k, k ∈ c.children s := by
  cases h <;> exact ⟨_, ‹_›⟩

theorem descOf_ne {c : Cfg} {s d : Nat} (h : DescOf c s d) : c.children s ≠ [] :=
  let ⟨_, hk⟩ := descOf_first h; List.ne_nil_of_mem hk

theorem descOf_ne_zero {c : Cfg} {s d : Nat} (h : DescOf c s d) : d ≠ 0 := by
  induction h with
  | child hk => exact (Run.mem_children.1 hk).2.1
  | deeper _ _ ih => exact ih

theorem descOf_sched {c : Cfg} (w : CoreA.WF c) {s d : Nat} (h : DescOf c s d) : c.isSched s = true := by
  obtain ⟨k, hk⟩ := descOf_first h
  obtain ⟨hkn, hk0, hkp⟩ := Run.mem_children.1 hk
  exact hkp ▸ w.parentSched k (by omega) hkn

theorem settled_desc {c : Cfg} (w : CoreA.WF c) {st : StB} (hB : InvB c st) (hS : SdInv c st) {s d : Nat}
    (hd : DescOf c s d) (hs : Settled st s) : AtRest c st d := by
  induction hd with
  | child hk => exact settled_child hB hS hs hk
  | deeper hk hkd ih => exact ih ((settled_child hB hS hs hk).settled (descOf_sched w hkd))

theorem over_quiet {c : Cfg} (hwf : c.wf = true) {evs : List EvB} {st : StB} (h : acceptB c StB.init evs = some st)
    {s d : Nat} (hover : st.pcB s = .over) (hd : DescOf c s d) : AtRest c st d := by
  have hB := invB_reach c hwf evs st h
  have hS := sdInv_reach c hwf evs st h
  obtain ⟨hsn, hss⟩ := hB.pcRange s (by simp [hover])
  have hne := descOf_ne hd
  exact settled_desc (wf_of hwf) hB hS hd ⟨hB.overDid s hsn hss hover hne, hS.overBc s hover hne, Or.inr hover⟩

set_option linter.unusedVariables false in
/-- C13: by the time a run is over — whatever the exit path — every job of it, at any depth, whether it ran,
    failed, was cancelled or never started, has received `co_shutdown()` exactly once -/
theorem shutdown_once_at_end (c : Cfg) (hwf : c.wf = true) (evs : List EvB) (st : StB)
    (h : acceptB c StB.init evs = some st) (s : Nat) (hover : st.pcB s = .over) (hne : c.children s ≠ []) :
    ∀ d, DescOf c s d → st.hcalls d = 1 :=
  fun _ hd => (over_quiet hwf h hover hd).once

/-- C11: once a run is over, none of its jobs at any depth is executing or waiting, no shutdown handler it
    launched is pending, and its nested schedulers are not in any phase of a run or of a broadcast -/
theorem over_subtree_quiet (c : Cfg) (hwf : c.wf = true) (evs : List EvB) (st : StB)
    (h : acceptB c StB.init evs = some st) (s : Nat) (hover : st.pcB s = .over) :
    ∀ d, DescOf c s d →
      (st.a.ph d).live = false ∧ st.hph d ≠ .hactive ∧
      (c.isSched d = true →
        (st.pcB d = .notBegun ∨ st.pcB d = .over) ∧ (st.bc d).isWait = false ∧ (st.bc d).isTidy = false) := by
  intro d hd
  have hq := over_quiet hwf h hover hd
  refine ⟨hq.notLive, by rcases hq.handlerEnded with h | h <;> simp [h], fun hs => ?_⟩
  exact ⟨(hq.settled hs).notRunning, by simp [(hq.settled hs).bover, Bc.isWait], by simp [(hq.settled hs).bover, Bc.isTidy]⟩

theorem descOf_snoc {c : Cfg} {s k d : Nat} (h : DescOf c s k) (hd : d ∈ c.children k) : DescOf c s d := by
  induction h with
  | child hk => exact .deeper hk (.child hd)
  | deeper hk _ ih => exact .deeper hk (ih hd)

theorem all_desc {c : Cfg} (w : CoreA.WF c) (j : Nat) (h0 : 0 < j) (hn : j < c.n) : DescOf c 0 j := by
  refine w.parent_ind (P := fun j => 0 < j → DescOf c 0 j) (fun h => absurd h (Nat.lt_irrefl 0)) ?_ j hn h0
  intro j h0 hn ih _
  have hmem : j ∈ c.children (c.parent j) := Run.mem_children.2 ⟨hn, by omega, rfl⟩
  by_cases hz : c.parent j = 0
  · rw [hz] at hmem; exact .child hmem
  · exact descOf_snoc (ih (by omega)) hmem

/-- C11: after the top-level run is over, the only thing that can happen is the passing of time -/
theorem top_over_only_ticks (c : Cfg) (hwf : c.wf = true) (evs : List EvB) (st st' : StB) (e : EvB)
    (h : acceptB c StB.init evs = some st) (h0 : st.pcB 0 = .over) (hs : stepB c st e = some st') :
    ∃ d, e = .tick d := by
  have w := wf_of hwf
  have hA := invA_of_reachB c hwf evs st h
  have hB := invB_reach c hwf evs st h
  have hq : ∀ j, 0 < j → j < c.n → AtRest c st j := fun j hj0 hjn => over_quiet hwf h h0 (all_desc w j hj0 hjn)
  have hhAll : ∀ j, st.hph j ≠ .hactive := by
    intro j hh
    obtain ⟨a, b⟩ := hB.handler_range (k := j) (by simp [hh])
    rcases (hq j a b).handlerEnded with h2 | h2 <;> rw [hh] at h2 <;> cases h2
  have hpcAll : ∀ s, st.pcB s = .notBegun ∨ st.pcB s = .over := by
    intro s
    by_cases h1 : st.pcB s = .notBegun
    · exact Or.inl h1
    · obtain ⟨a, b⟩ := hB.pcRange s h1
      by_cases hz : s = 0
      · subst hz; exact Or.inr h0
      · exact ((hq s (by omega) a).settled b).notRunning
  have hpo := (hB.pcOver 0).1 h0
  -- every other event is the move of something unfinished, and nothing is
  rcases alive_of_step (.of_stepB hs) with h1 | h1 | ⟨j, h1⟩ | ⟨s, h1⟩ | ⟨j, h1⟩ | ⟨s, h1⟩
  · exact h1
  · rw [hpo] at h1; cases h1
  · exfalso
    have hjn : j < c.n := hA.phRange j fun hi => by simp [hi, Ph.live] at h1
    by_cases hz : j = 0
    · -- the top-level task: were it queued its run would not have begun, were it running its run would not be over
      subst hz
      cases hp : st.a.ph 0 <;> simp [hp, Ph.live] at h1
      · have := hA.notBegun 0 w.sched0 (Or.inr hp)
        rw [hpo] at this; cases this
      · exact (runPcA_reach c evs st h 0 w.sched0 hp).2 hpo
    · rw [(hq j (by omega) hjn).notLive] at h1; cases h1
  · rcases hpcAll s with h2 | h2 <;> simp [h2, PcB.exiting] at h1
  · exact absurd h1 (hhAll j)
  · rcases bc_idle hB (hpcAll s) (hhAll s) with h2 | h2 <;> simp [h2, Bc.isWait, Bc.isTidy] at h1

def overCex : Cfg :=
  { n := 3, parent := fun j => if j = 2 then 1 else 0, isSched := fun j => j = 0 || j = 1, req := fun _ => [],
    critical := fun _ => false, forever := fun _ => false, window := fun _ => 0, timeout := fun _ => none,
    sdTimeout := fun _ => none, topPure := true }

def overCexSt : StB :=
  { StB.init with
    a := { StA.init with
           ph := fun j => if j = 0 then .running else if j = 1 then .queued else if j = 2 then .done .retOwn else .idle
           pc := fun j => if j = 0 then .loop else if j = 1 then .over else .notBegun }
    pcB := fun j => if j = 0 then .loop else if j = 1 then .over else .notBegun
    didSd := fun j => j = 1
    bc := fun j => if j = 1 then .bover else .bnone
    hph := fun j => if j = 2 then .hdone else .hnone
    hcalls := fun j => if j = 2 then 1 else 0 }

theorem overCex_grant : (stepB overCex overCexSt (.grant 1)).map (fun st' => st'.pcB 1) = some .loop := by decide

/-- job `1` is a nested scheduler whose run is over, yet its task is `queued`: `grant 1` begins its run again -/
example : overCex.wf = true ∧ overCexSt.pcB 1 = .over ∧
    (stepB overCex overCexSt (.grant 1)).map (fun st' => st'.pcB 1) = some .loop :=
  ⟨by decide, by decide, overCex_grant⟩

theorem overCex_children (s k : Nat) : k ∈ overCex.children s ↔ (s = 0 ∧ k = 1) ∨ (s = 1 ∧ k = 2) := by
  rw [Run.mem_children]
  dsimp only [overCex]
  grind

example : ¬ InvA overCex overCexSt.a := by
  intro h
  have := h.notBegun 1 (by decide) (Or.inr (by decide))
  revert this; decide

section
attribute [local grind] overCex rxD relayActive Ph.live PcB.exiting PcB.exitOf Bc.isWait Bc.isTidy
attribute [local grind =] overCex_children

/-- the state of the counter-example satisfies `InvB` (it does not satisfy `InvA`: it is not reachable) -/
theorem overCex_invB : InvB overCex overCexSt := by
  dsimp only [overCexSt, StB.init, StA.init]
  constructor
  case count => intro s _; simp [List.filter_eq_nil_iff.2, rxD]
  all_goals grind

end

theorem overCex_regrant : ∃ st', stepB overCex overCexSt (.grant 1) = some st' ∧ st'.pcB 1 = .loop :=
  Option.map_eq_some_iff.1 overCex_grant

end AJ.Proofs.ShutB

namespace AJ.Proofs.ExitB
open AJ.Run AJ.Full AJ.Proofs.CoreB AJ.Proofs.ShutB

/-- `loop_left_for_good` without `InvA` is false, for the same reason as `over_is_final` -/
theorem loop_left_for_good_needs_invA :
    ¬ ∀ (c : Cfg) (st st' : StB) (e : EvB) (s : Nat), InvB c st → stepB c st e = some st' →
        st.pcB s ≠ .loop → st.pcB s ≠ .notBegun → st'.pcB s ≠ .loop ∧ st'.pcB s ≠ .notBegun := by
  intro H
  obtain ⟨st', hst, hl⟩ := overCex_regrant
  exact (H overCex overCexSt st' (.grant 1) 1 overCex_invB hst (by decide) (by decide)).1 hl

theorem diag_stable_needs_invA :
    ¬ ∀ (c : Cfg) (st st' : StB) (e : EvB) (s : Nat), InvB c st → stepB c st e = some st' → st.pcB s = .over →
        st'.pcB s = .over ∧ st'.failT s = st.failT s ∧ st'.failC s = st.failC s ∧ st'.a.ph s = st.a.ph s := by
  intro H
  obtain ⟨st', hst, hl⟩ := overCex_regrant
  have := (H overCex overCexSt st' (.grant 1) 1 overCex_invB hst (by decide)).1
  rw [hl] at this; cases this

end AJ.Proofs.ExitB

namespace AJ.Proofs.Gap3
open AJ.Run AJ.Full AJ.Proofs.CoreB AJ.Proofs.ShutB

/-- C13 ("`co_shutdown()` returns `True` iff every handler completed"), the `True` half as a statement about states:
    in every reachable state in which the last `co_shutdown()` of scheduler `s` returned `True`, the shutdown handler
    of every job of `s` has ended normally (`hdone`, not cancelled) and no `cancel()` was ever called on it. -/
theorem sdvalue_true_means (c : Cfg) (hwf : c.wf = true) (evs : List EvB) (st : StB)
    (h : acceptB c StB.init evs = some st) (s : Nat) (hv : st.sdValue s = some true) :
    ∀ k ∈ c.children s, st.hph k = .hdone ∧ st.hcreq k = false :=
  (sdInv_reach c hwf evs st h).valTrue s hv

/-- C13 ("`co_shutdown()` returns `False` iff some handler had to be cancelled"), the `False` half.
    In every reachable state in which the last `co_shutdown()` of scheduler `s` is recorded as `False`:
    * either the handler of some job `k` of `s` ended cancelled, or — the one other way a `cancel()` on a handler
      can end in the model — `k` is a nested scheduler that had already shut down, whose relay returned at its first
      step (`hdone`) with the request still standing (`hcreq k`);
    * or that call of `co_shutdown()` did not time out but was itself interrupted by a `CancelledError`: one was
      delivered into `co_run()` of `s` (`carrived s`, inline call) or into the relayed call (`hcarrived s`) — in the
      code such a call raises instead of returning; the model records `some false` for it.
    The simpler statement (`∃ k ∈ c.children s, st.hph k = .hcancelled`) is false in both cases: see
    `sdvalue_false_cex_relay` and `sdvalue_false_cex_cancelled` (Gap3.lean). -/
theorem sdvalue_false_means (c : Cfg) (hwf : c.wf = true) (evs : List EvB) (st : StB)
    (h : acceptB c StB.init evs = some st) (s : Nat) (hv : st.sdValue s = some false) :
    (∃ k ∈ c.children s, st.hph k = .hcancelled ∨
        (c.isSched k = true ∧ st.didSd k = true ∧ st.hph k = .hdone ∧ st.hcreq k = true)) ∨
      st.carrived s = true ∨ st.hcarrived s = true := by
  have hB := invB_reach c hwf evs st h
  have hS := sdInv_reach c hwf evs st h
  rcases hS.falseCause s (Or.inr hv) with ⟨k, hk, hc⟩ | hc
  · refine Or.inl ⟨k, hk, ?_⟩
    rcases hc with hc | hc
    · exact Or.inl hc
    · rcases hB.hcreqActive k hc with ha | ⟨h1, h2, h3⟩
      · -- the broadcast of `s` is finished: none of its handlers is pending
        exact absurd ha (not_hactive_of_bover hB hk (hS.val s false hv))
      · exact Or.inr ⟨h1, h3, h2, hc⟩
  · exact Or.inr hc

/-- C11 ("… nor will execute later"), about histories: once the run of scheduler `s` is over, after ANY continuation
    of the history it is still over and no job of its subtree, at any depth, is executing or waiting for a slot, nor is
    any shutdown handler of the subtree pending. -/
theorem over_stays_quiet (c : Cfg) (hwf : c.wf = true) (evs more : List EvB) (st st' : StB) (s : Nat)
    (h : acceptB c StB.init evs = some st) (hover : st.pcB s = .over) (h' : acceptB c st more = some st') :
    st'.pcB s = .over ∧ ∀ d, DescOf c s d → (st'.a.ph d).live = false ∧ st'.hph d ≠ .hactive := by
  have hr := (isRunB c).append_some.2 ⟨st, h, h'⟩
  have ho : st'.pcB s = .over :=
    (inv_induction (P := fun _ st1 => st1.pcB s = .over) hwf h' (invA_of_reachB c hwf evs st h)
      (invB_reach c hwf evs st h) hover fun _ st1 e st2 _ hA hB ho hs => over_is_final c st1 st2 e s hA hB hs ho).2.2
  exact ⟨ho, fun d hd => let q := over_subtree_quiet c hwf (evs ++ more) st' hr s ho d hd; ⟨q.1, q.2.1⟩⟩

/-- C13 ("no job starts after the shutdown broadcast"), state form: in every reachable state in which scheduler `s`
    has broadcast its shutdown (`_did_shutdown`), none of its jobs is executing or waiting for a slot. -/
theorem shut_down_stays_quiet (c : Cfg) (hwf : c.wf = true) (evs : List EvB) (st : StB) (s : Nat)
    (h : acceptB c StB.init evs = some st) (hd : st.didSd s = true) :
    ∀ k ∈ c.children s, (st.a.ph k).live = false :=
  (invB_reach c hwf evs st h).sdQuiet s hd

/-- C13 ("no job starts after the shutdown broadcast"), history form: after ANY continuation of the history
    `_did_shutdown` is still set and none of the jobs of `s` is executing or waiting for a slot — in particular none was
    started in between. -/
theorem shut_down_stays_quiet_later (c : Cfg) (hwf : c.wf = true) (evs more : List EvB) (st st' : StB) (s : Nat)
    (h : acceptB c StB.init evs = some st) (hd : st.didSd s = true) (h' : acceptB c st more = some st') :
    st'.didSd s = true ∧ ∀ k ∈ c.children s, (st'.a.ph k).live = false := by
  have hd' := didSd_later h' hd
  exact ⟨hd', shut_down_stays_quiet c hwf (evs ++ more) st' s ((isRunB c).append_some.2 ⟨st, h, h'⟩) hd'⟩

/-- C13 ("no job starts after the shutdown broadcast"), strongest form: once scheduler `s` has broadcast its
    shutdown, whatever happens next leaves each of its jobs exactly as it was — same phase (idle, finished or
    cancelled) and same number of entries into its body: none starts, none runs again. -/
theorem shut_down_freezes (c : Cfg) (hwf : c.wf = true) (evs more : List EvB) (st st' : StB) (s : Nat)
    (h : acceptB c StB.init evs = some st) (hd : st.didSd s = true) (h' : acceptB c st more = some st') :
    ∀ k ∈ c.children s, st'.a.ph k = st.a.ph k ∧ st'.a.entries k = st.a.entries k := fun k hk =>
  frozen_later h' (Run.mem_children.1 hk).2.1 fun pre st1 hpre =>
    (shut_down_stays_quiet_later c hwf evs pre st st1 s h hd hpre).2 k hk

/-- C11 ("nothing it started is still running, nor will execute later"), strongest form: once the run of scheduler
    `s` is over, whatever happens next leaves every job of its subtree, at any depth, exactly as it was — same phase,
    same number of entries into its body. -/
theorem over_freezes (c : Cfg) (hwf : c.wf = true) (evs more : List EvB) (st st' : StB) (s : Nat)
    (h : acceptB c StB.init evs = some st) (hover : st.pcB s = .over) (h' : acceptB c st more = some st') :
    ∀ d, DescOf c s d → st'.a.ph d = st.a.ph d ∧ st'.a.entries d = st.a.entries d := fun d hdd =>
  frozen_later h' (descOf_ne_zero hdd) fun pre st1 hpre =>
    ((over_stays_quiet c hwf evs pre st st1 s h hover hpre).2 d hdd).1

/-- C13 ("a later `shutdown()` sends nothing more"), function level: `stepB` applies `broadcast c st s _` only under
    the guard `st.didSd s = false` (its two call sites: `tidyReturn s _`, `hStep s`).  This is
    `ShutB.shutdown_idempotent` without its hypotheses `hwf`, `hA`, `hB`, which the proof does not use. -/
theorem broadcast_guarded (c : Cfg) (st st' : StB) (e : EvB) (s : Nat) (h : stepB c st e = some st')
    (hd : st.didSd s = true) : ∀ k ∈ c.children s, st'.hcalls k = st.hcalls k :=
  hcalls_guarded (.of_stepB h) hd

/-- C13, along any continuation of a history: once `s` has shut down, the number of `co_shutdown()` calls received by
    each of its jobs never changes again -/
theorem broadcast_guarded_later (c : Cfg) (more : List EvB) (st st' : StB) (s : Nat) (hd : st.didSd s = true)
    (h' : acceptB c st more = some st') : ∀ k ∈ c.children s, st'.hcalls k = st.hcalls k := fun k hk =>
  (isRunB c).induction (P := fun _ st1 => st1.hcalls k = st.hcalls k) h' rfl fun _ _ _ _ hpre hc hs =>
    (hcalls_guarded (.of_stepB hs) (didSd_later hpre hd) k hk).trans hc

end AJ.Proofs.Gap3
