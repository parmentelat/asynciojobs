/-
  Non-vacuity of the C18 / C20 theorems of `AJ.Proofs.Gap4` (Listing.lean, C18.lean, C20.lean; the registration clauses
  of C19.lean have no example here): a nested tree `exT` with its listing, DOT items and ids, and a flat scheduler `exF`
  on which the three surgery operations run in a row.
-/
import AJ.Proofs.C15Aux
import AJ.Proofs.C18
namespace AJ.Proofs.Gap4
open AJ.Proofs.C16 AJ.Proofs.C18

/-- scheduler `0` holds job `1` and the nested scheduler `2`, which holds job `3`; `2` requires `1` -/
def exT : T where
  n := 4
  isSched := fun k => k == 0 || k == 2
  mem := fun k => if k = 0 then [1, 2] else if k = 2 then [3] else []
  req := fun k => if k = 2 then [1] else []
  forever := fun _ => false
  critical := fun _ => false

theorem exT_tree : TreeAt exT 0 :=
  .of_wf (by decide) (fun k hk => by
    have : 4 ≤ k := hk
    simp only [exT]
    rw [if_neg (by omega), if_neg (by omega)]) 0

/-- `listing_exact` / `listing_total` apply to `exT` -/
example : exT.isSched 0 = true ∧ TreeAt exT 0 ∧ listing exT 4 0 = .ok [1, 2, 3] :=
  ⟨rfl, exT_tree, rfl⟩

/-- `dotBody_parent` / `edge_physical` apply to `exT`: the export succeeds, with a cluster and an edge into it -/
example : dotBody exT 4 4 0 =
    .ok [.node 1, .openCluster 2, .node 3, .close, .edge 1 3 (some 2) none] := by
  rfl

/-- `ids_unique` applies to `exT` -/
example : assignIds exT 4 0 1 = .ok (4, [(1, 1), (2, 2), (3, 3)]) ∧
    (∀ p ∈ [(1, 1), (2, 2), (3, 3)], (id : Nat → Nat) p.1 = p.2) ∧ ([(1, 1), (2, 2), (3, 3)].map (·.1)).Nodup := by
  exact ⟨rfl, by decide, by decide⟩

/-- a flat scheduler: `0` holds `1`, `2`, `3`, with `3` requiring `2` requiring `1` -/
def exF : T where
  n := 4
  isSched := fun k => k == 0
  mem := fun k => if k = 0 then [1, 2, 3] else []
  req := fun k => if k = 3 then [2] else if k = 2 then [1] else []
  forever := fun _ => false
  critical := fun _ => false

/-- `between_closed_acyclic` / `ops_closed_acyclic` apply to `exF`: it is flat, closed, acyclic, and the three
    operations in a row succeed (leaving job `3` alone) -/
example : FlatAt exF 0 ∧ Closed exF 0 ∧ Acyclic exF 0 ∧
    ∃ t', [SOp.between [1] [3] true true, SOp.bypass 2, SOp.keep [3]].foldlM (fun a o => applyOp a 0 0 o) exF = .ok t' ∧
      t'.mem 0 = [3] ∧ t'.req 3 = [] := by
  refine ⟨?_, ?_, C15.acyclic_of_topo_ok exF 0 [1, 2, 3] rfl, _, rfl, rfl, rfl⟩
  · unfold FlatAt; decide
  · unfold Closed; decide

end AJ.Proofs.Gap4
