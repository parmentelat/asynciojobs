/-
  Layer B: progress (C03) — failures and windows never wedge a run: whenever something must happen "now" some
  event other than the passing of time is enabled (one enabledness lemma `en_*` per clause of `QuietAt`), and whenever
  time may pass with the top-level run unfinished, something that takes finite time is in flight (a job body, a
  shutdown handler) or a deadline is armed (one descent through the scheduler tree, `below`).
-/
import AJ.Proofs.ExitB
namespace AJ.Proofs.ProgB
open AJ.Run AJ.Full AJ.Proofs.CoreA AJ.Proofs.CoreB

def NotStuck (c : Cfg) (st : StB) : Prop :=
  ∀ s, st.pcB s = .loop → st.a.rx s = none → st.nbDone s ≠ nbFinite c s ∨ ∃ k ∈ c.children s, st.a.deliv k = false

theorem notStuck_step {c : Cfg} {st st' : StB} {e : EvB} (hA : InvA c st.a)
    (h : StepB c st e st') (hp : NotStuck c st) : NotStuck c st' := by
  intro s hl hr
  match wait_cases h s with
  | .same h1 h2 h3 h4 =>
    rw [h2]
    refine (hp s (h4 hl) (h1 ▸ hr)).imp_right fun ⟨k, hk, hd⟩ => ⟨k, hk, ?_⟩
    rw [h3 k hk, hd]
  | .returns (rx := h1) .. => rw [h1] at hr; cases hr
  | .reactGoes (nbDone := h1) .. => exact Or.inl h1
  | .leaves (pc := h1) .. => rw [h1] at hl; cases hl
  | .begins hev h2 h3 =>
    -- the run has just begun: none of its jobs has been reported
    right
    rw [h2] at hl
    obtain ⟨k, hk⟩ := List.exists_mem_of_ne_nil (c.children s) (by intro hch; simp [hch] at hl)
    have hnb : st.a.pc s = .notBegun := by
      rcases hev with ⟨_, _, h1⟩ | ⟨_, hs, h1⟩
      · exact h1
      · exact hA.notBegun s hs (Or.inr h1)
    exact ⟨k, hk, by rw [h3]; exact hA.delivOff (Or.inl (hA.childrenIdle hnb k hk))⟩

structure InvP (c : Cfg) (st : StB) : Prop where
  /-- converse of `InvB.runPh` -/
  runPc : ∀ s, c.isSched s = true → st.a.ph s = .running → st.pcB s ≠ .notBegun ∧ st.pcB s ≠ .over
  critMeans : ∀ s, (st.pcB s).exitOf = some .critical →
      ∃ k ∈ c.children s, c.critical k = true ∧ ∃ ex, st.a.ph k = .done (.exc ex)
  /-- a run waiting in its main loop, no reaction pending, still expects something: the count of reported jobs
      has not reached the number of regular jobs (otherwise the last reaction would have left the loop), or some
      job is not reported yet (so it is when the run begins) -/
  notStuck : NotStuck c st

theorem invP_reach (c : Cfg) (hwf : c.wf = true) (evs : List EvB) (st : StB)
    (h : acceptB c StB.init evs = some st) : InvP c st := by
  have hB := invB_reach c hwf evs st h
  have hR := runPcA_reach c evs st h
  refine ⟨fun s hs hr => ⟨fun hn => (hR s hs hr).1 ((hB.pcNotBegun s).1 hn), fun ho => (hR s hs hr).2 ((hB.pcOver s).1 ho)⟩,
    (ExitB.exitInv_reach c hwf evs st h).criticalMeans, ?_⟩
  exact reach_induction (P := fun _ st => NotStuck c st) hwf h (fun s hl => by simp [StB.init] at hl)
    fun _ _ _ _ _ hA _ hN hs => notStuck_step hA (.of_stepB hs) hN

/-- `quietB` at one id, as propositions: clause `q`*i* says that the *i*-th thing that would have to happen now (in the
    order of `quietB`) is not pending at `j` -/
structure QuietAt (c : Cfg) (st : StB) (j : Nat) : Prop where
  q1 : ¬ (0 < j ∧ st.a.ph j = .queued ∧ (st.a.creq j = true ∨ slotFree c st.a (c.parent j) = true))
  q2 : ¬ (c.isSched j = true ∧ st.a.ph j = .running ∧ st.a.creq j = true ∧ st.carrived j = false)
  q3 : ¬ (c.isSched j = true ∧ st.pcB j = .loop ∧ (doneSet c st.a j ≠ [] ∨ st.a.rx j ≠ none))
  q4 : ¬ (c.isSched j = true ∧ (st.pcB j).isTidy = true ∧ liveChildren c st.a j = [])
  q5 : ¬ (c.isSched j = true ∧ st.hph j = .hactive ∧ relayActive st j = false)
  q6 : ¬ (c.isSched j = true ∧ st.hph j = .hactive ∧ st.hcreq j = true ∧ st.hcarrived j = false)
  q7 : ¬ (c.isSched j = true ∧ ((st.bc j).isWait = true ∨ (st.bc j).isTidy = true) ∧ activeHandlers c st j = [])

theorem bnot_eq_true {b : Bool} : (!b) = true ↔ ¬ b = true := by cases b <;> simp

theorem quietB_iff (c : Cfg) (st : StB) : quietB c st = true ↔ ∀ j, j < c.n → QuietAt c st j := by
  unfold quietB
  simp only [List.all_eq_true, List.mem_range]
  refine forall_congr' fun j => imp_congr_right fun _ => ?_
  -- clause by clause, `!(a && b && …) = true` becomes `¬ (a = true ∧ b = true ∧ …)`
  simp only [Bool.and_eq_true, bnot_eq_true, Bool.or_eq_true, beq_iff_eq, decide_eq_true_eq, List.isEmpty_iff,
    Option.isSome_iff_ne_none, Bool.not_eq_true, and_assoc]
  exact ⟨fun ⟨h1, h2, h3, h4, h5, h6, h7⟩ => ⟨h1, h2, h3, h4, h5, h6, h7⟩,
    fun h => ⟨h.q1, h.q2, h.q3, h.q4, h.q5, h.q6, h.q7⟩⟩

theorem quiet_loop {c : Cfg} {st : StB} {s : Nat} (hq : QuietAt c st s) (hss : c.isSched s = true)
    (hl : st.pcB s = .loop) : st.a.rx s = none ∧ doneSet c st.a s = [] :=
  ⟨Classical.byContradiction fun h => hq.q3 ⟨hss, hl, Or.inr h⟩,
   Classical.byContradiction fun h => hq.q3 ⟨hss, hl, Or.inl h⟩⟩

theorem quiet_tidy {c : Cfg} {st : StB} {s : Nat} {x : Exit} (hq : QuietAt c st s) (hss : c.isSched s = true)
    (hp : st.pcB s = .tidy x) : ∃ k ∈ c.children s, (st.a.ph k).live = true :=
  let ⟨k, hk⟩ := List.exists_mem_of_ne_nil _ fun h => hq.q4 ⟨hss, by simp [hp, PcB.isTidy], h⟩
  ⟨k, mem_liveChildren.1 hk⟩

theorem quiet_shut {c : Cfg} {st : StB} {s : Nat} (hq : QuietAt c st s) (hss : c.isSched s = true)
    (hbc : (st.bc s).isWait = true ∨ (st.bc s).isTidy = true) : ∃ k ∈ c.children s, st.hph k = .hactive :=
  let ⟨k, hk⟩ := List.exists_mem_of_ne_nil _ fun h => hq.q7 ⟨hss, hbc, h⟩
  ⟨k, mem_activeHandlers.1 hk⟩

theorem quiet_shutting {c : Cfg} {st : StB} {s : Nat} {x : Exit} (hB : InvB c st) (hq : QuietAt c st s)
    (hss : c.isSched s = true) (hp : st.pcB s = .shut x ∨ st.pcB s = .shutTidy x) :
    ∃ k ∈ c.children s, st.hph k = .hactive :=
  quiet_shut hq hss <| hp.imp (fun h => by simp [(hB.bcInlineWait s).2 ⟨x, h⟩, Bc.isWait])
    fun h => by simp [(hB.bcInlineTidy s).2 ⟨x, h⟩, Bc.isTidy]

theorem cancelPending_of_quiet {c : Cfg} {st : StB} {s : Nat} (hq : QuietAt c st s) (hss : c.isSched s = true)
    (hrun : st.a.ph s = .running) : cancelPending st s = false :=
  Bool.eq_false_iff.2 fun h => hq.q2 ⟨hss, hrun, cancelPending_iff.1 h⟩

theorem calm_of_quiet {c : Cfg} {st : StB} (hB : InvB c st) (hQ : ∀ j, j < c.n → QuietAt c st j) : Calm c st.a :=
  ⟨fun j hj hc => (hQ j (List.mem_range.1 hj)).q1 ⟨hc.1, hc.2.1, Or.inr hc.2.2.2⟩,
   fun s hs hc => (hQ s (List.mem_range.1 hs)).q3 ⟨hc.1, (hB.pcLoop s).2 hc.2.1, hc.2.2⟩⟩

/-- some job of `s`; some regular one, given that one exists: `AdmB.loop_regular_unreported` -/
theorem loop_undelivered {c : Cfg} {st : StB} (hB : InvB c st) (hN : NotStuck c st) {s : Nat} (hl : st.pcB s = .loop)
    (hrx : st.a.rx s = none) : ∃ k ∈ c.children s, st.a.deliv k = false := by
  refine (hN s hl hrx).elim (fun hne => Classical.byContradiction fun hno => hne ?_) id
  exact hB.count_full hl hrx fun k hk _ => Bool.of_not_eq_false fun hd => hno ⟨k, hk, hd⟩

theorem none_queued {c : Cfg} {st : StB} (hA : InvA c st.a) (hQ : ∀ j, j < c.n → QuietAt c st j) {s : Nat}
    (hsn : s < c.n) (hss : c.isSched s = true) (hroom : c.window s ≠ 0 → runningCount c st.a s < c.window s) :
    ∀ k ∈ c.children s, st.a.ph k ≠ .queued := by
  intro k hk hkq
  obtain ⟨hkn, hk0, hkp⟩ := Run.mem_children.1 hk
  refine (hQ k hkn).q1 ⟨by omega, hkq, Or.inr ?_⟩
  have hqc := hA.qcountEq s hsn hss
  rw [hkp]
  simp only [slotFree, Bool.or_eq_true, beq_iff_eq, decide_eq_true_eq]
  by_cases hw : c.window s = 0
  · exact Or.inl hw
  · have := hroom hw
    exact Or.inr (by omega)

/-- `G`: a set of jobs closed under requirement.  By induction along the requirements: an idle job has a requirement
    that has not finished and been reported (`InvA.eager`). -/
theorem loop_settled {c : Cfg} (w : CoreA.WF c) {st : StB} (hA : InvA c st.a) (hB : InvB c st) {s : Nat}
    (hq : QuietAt c st s) (hss : c.isSched s = true) (hl : st.pcB s = .loop) {G : Nat → Prop}
    (hreq : ∀ k, G k → ∀ r ∈ c.req k, G r)
    (hG : ∀ k ∈ c.children s, G k → st.a.ph k ≠ .queued ∧ st.a.ph k ≠ .running) :
    ∀ k ∈ c.children s, G k → (st.a.ph k).isDone = true ∧ st.a.deliv k = true := by
  obtain ⟨hrx, hD⟩ := quiet_loop hq hss hl
  intro k
  induction k using Nat.strongRecOn with
  | ind k ih =>
    intro hkc hgk
    obtain ⟨hkn, hk0, _⟩ := Run.mem_children.1 hkc
    cases hph : st.a.ph k with
    | idle =>
      obtain ⟨r, hr, hnot⟩ := hA.eager s ((hB.pcLoop s).1 hl) k hkc hph
      have hrd := ih r (w.reqLt k (by omega) hkn r hr) (w.req_child hkc hr) (hreq k hgk r hr)
      exact absurd ⟨hrd.1, hrd.2, by simp [hrx]⟩ hnot
    | queued => exact absurd hph (hG k hkc hgk).1
    | running => exact absurd hph (hG k hkc hgk).2
    | cancelled => exact absurd hph (hB.loopClean s hl k hkc).2
    | done r => exact ⟨rfl, Run.deliv_of_doneSet_nil hD hkc (by rw [hph]; rfl)⟩

theorem loop_has_running {c : Cfg} (w : CoreA.WF c) {st : StB} (hA : InvA c st.a) (hB : InvB c st) (hP : InvP c st)
    (hQ : ∀ j, j < c.n → QuietAt c st j) {s : Nat} (hsn : s < c.n) (hss : c.isSched s = true)
    (hl : st.pcB s = .loop) : ∃ k ∈ c.children s, st.a.ph k = .running := by
  apply Classical.byContradiction
  intro hno
  have hnr : ∀ k ∈ c.children s, st.a.ph k ≠ .running := fun k hk hr => hno ⟨k, hk, hr⟩
  -- the window is empty, so nothing is queued: every job has finished and been reported
  have hnq := none_queued hA hQ hsn hss fun hw => by
    rw [runningCount_eq, rcOf_zero c _ s hnr]; omega
  obtain ⟨k, hk, hkd⟩ := loop_undelivered hB hP.notStuck hl (quiet_loop (hQ s hsn) hss hl).1
  have := (loop_settled w hA hB (hQ s hsn) hss hl (G := fun _ => True) (fun _ _ _ _ => trivial)
    (fun k hk _ => ⟨hnq k hk, hnr k hk⟩) k hk trivial).2
  rw [hkd] at this; cases this

theorem tidy_has_running {c : Cfg} {st : StB} (hB : InvB c st) (hQ : ∀ j, j < c.n → QuietAt c st j) {s : Nat}
    {x : Exit} (hsn : s < c.n) (hss : c.isSched s = true) (hp : st.pcB s = .tidy x) :
    ∃ k ∈ c.children s, st.a.ph k = .running ∧ st.a.creq k = true := by
  obtain ⟨k, hkc, hkl⟩ := quiet_tidy (hQ s hsn) hss hp
  obtain ⟨hkn, hk0, _⟩ := Run.mem_children.1 hkc
  have hcr := hB.exitCancelled s (by simp [hp, PcB.exiting]) k hkc hkl
  refine ⟨k, hkc, ?_, hcr⟩
  cases hph : st.a.ph k <;> simp [hph, Ph.live] at hkl
  · exact absurd ⟨by omega, hph, Or.inl hcr⟩ (hQ k hkn).q1
  · rfl

theorem hcancelPending_of_inRun {c : Cfg} {st : StB} (hB : InvB c st) {s : Nat}
    (h1 : st.pcB s ≠ .notBegun) (h2 : st.pcB s ≠ .over) : hcancelPending st s = false :=
  Bool.eq_false_iff.2 fun hc => by
    have hne : st.hph s ≠ .hnone := by
      rcases hB.hcreqActive s (hcancelPending_iff.1 hc).1 with h | ⟨_, h, _⟩ <;> simp [h]
    exact (hB.relayed_idle hne).elim (absurd · h1) (absurd · h2)

theorem cancelPending_of_relayed {c : Cfg} {st : StB} (hA : InvA c st.a) (hB : InvB c st) {s : Nat}
    (h : st.hph s ≠ .hnone) (hss : c.isSched s = true) : cancelPending st s = false :=
  Bool.eq_false_iff.2 fun hc => by
    have := hB.relayIdle s hss (hB.handler_range h).1 h
    rw [hA.creqLive s (cancelPending_iff.1 hc).1] at this; cases this

theorem not_tick_of {e : EvB} (h : match e with | .tick _ => False | _ => True) : ∀ d, e ≠ .tick d := by
  intro d hd; subst hd; exact h

/-- an event of the run itself: neither the passing of time nor the cancellation of the top-level task from outside
    (the two things the run cannot count on: time may not pass while something urgent is pending, and nobody is
    obliged to cancel the run) -/
def internalEv : EvB → Prop
  | .tick _ => False
  | .extCancel => False
  | _ => True

theorem internalEv.not_tick {e : EvB} (h : internalEv e) : ∀ d, e ≠ .tick d := by
  intro d hd; subst hd; exact h

theorem internalEv.not_ext {e : EvB} (h : internalEv e) : e ≠ .extCancel := by
  intro hd; subst hd; exact h

theorem _root_.AJ.Full.StepB.internal {c : Cfg} {st st' : StB} {e : EvB} (h : StepB c st e st') (hi : internalEv e) :
    ∃ e st', internalEv e ∧ StepB c st e st' :=
  ⟨e, st', hi, h⟩

theorem en_cancelArrive {c : Cfg} {st : StB} (hB : InvB c st) (hP : InvP c st) {s : Nat}
    (hsn : s < c.n) (hss : c.isSched s = true) (hrun : st.a.ph s = .running) :
    (∃ st', StepB c st (.cancelArrive s) st') ∨ cancelPending st s = false := by
  cases hcp : cancelPending st s with
  | false => exact Or.inr rfl
  | true =>
    obtain ⟨hcr, hca⟩ := cancelPending_iff.1 hcp
    obtain ⟨hnb, hno⟩ := hP.runPc s hss hrun
    cases hp : st.pcB s with
    | notBegun => exact absurd hp hnb
    | over => exact absurd hp hno
    | loop =>
      exact Or.inl ⟨_, .cancelLoop hsn hss hrun hcr hca hp
        (.leave hsn hss ((hB.pcLoop s).1 hp) fun _ => mem_liveChildren.1)⟩
    | tidy x => exact Or.inl ⟨_, .cancelTidy hsn hss hrun hcr hca hp⟩
    | shut x => exact Or.inl ⟨_, .cancelShut hsn hss hrun hcr hca hp⟩
    | shutTidy x => exact Or.inl ⟨_, .cancelShutTidy hsn hss hrun hcr hca hp⟩

theorem en_loop {c : Cfg} {st : StB} (hB : InvB c st) (hP : InvP c st) {s : Nat}
    (hsn : s < c.n) (hss : c.isSched s = true) (hl : st.pcB s = .loop)
    (hu : doneSet c st.a s ≠ [] ∨ st.a.rx s ≠ none) :
    ∃ e st', internalEv e ∧ StepB c st e st' := by
  have hpc := (hB.pcLoop s).1 hl
  rcases en_cancelArrive hB hP hsn hss (hB.runPh s (by simp [hl]) (by simp [hl])) with ⟨st', h⟩ | hcp
  · exact h.internal trivial
  cases hrx : st.a.rx s with
  | none =>
    exact (StepB.waitReturn hl hcp (.waitReturn hsn hss hpc hrx (hu.resolve_right fun h => h hrx))).internal trivial
  | some D =>
    have hlv := StepA.reactLeave hrx hsn hss hpc fun _ => mem_liveChildren.1
    cases hcrit : critIn c st.a D with
    | true => exact (StepB.reactCritical hl hrx hcp hcrit hlv).internal trivial
    | false =>
      by_cases hnb : st.nbDone s + (D.filter fun d => !c.forever d).length = nbFinite c s
      · exact (StepB.reactSuccess hl hrx hcp hcrit hnb hlv).internal trivial
      · cases hexp : expired (st.deadline s) st.a.now with
        | true => exact (StepB.reactTimeout hl hrx hcp hcrit hnb hexp hlv).internal trivial
        | false => exact (StepB.reactGo hl hrx hcp hcrit hnb hexp (.reactGo hrx hsn hss hpc)).internal trivial

/-- A run that is out of its main loop can end, unless a cancellation is to be delivered first: a verdict exists
    (after a critical failure the `pick` is the critical job that raised, `InvP.critMeans`), and the task of `s` can
    finish with it. -/
theorem en_end {c : Cfg} {st : StB} (hB : InvB c st) (hP : InvP c st) {s : Nat} {x : Exit}
    (hx : (st.pcB s).exitOf = some x) :
    (∃ st', StepB c st (.cancelArrive s) st') ∨
    (cancelPending st s = false ∧ hcancelPending st s = false ∧
      ∃ pick r a', verdict c st s x pick = some r ∧ StepA c st.a (.finish s r) a') := by
  have h1 : st.pcB s ≠ .notBegun := fun h => by rw [h] at hx; cases hx
  have h2 : st.pcB s ≠ .over := fun h => by rw [h] at hx; cases hx
  obtain ⟨hsn, hss⟩ := hB.pcRange s h1
  have hrun := hB.runPh s h1 h2
  refine (en_cancelArrive hB hP hsn hss hrun).imp_right fun hcp => ⟨hcp, hcancelPending_of_inRun hB h1 h2, ?_⟩
  have hpc : st.a.pc s = .exiting := by
    cases hp : st.a.pc s
    · exact absurd ((hB.pcNotBegun s).2 hp) h1
    · rw [(hB.pcLoop s).2 hp] at hx; cases hx
    · rfl
    · exact absurd ((hB.pcOver s).2 hp) h2
  have hv : ∃ pick r, verdict c st s x pick = some r := by
    cases x with
    | critical =>
      obtain ⟨k, hk, hck, ex, hex⟩ := hP.critMeans s hx
      refine ⟨k, ?_⟩
      simp only [verdict]
      split
      · rw [if_pos ⟨hk, hck⟩, hex]; exact ⟨_, rfl⟩
      · exact ⟨_, rfl⟩
    | timeout => exact ⟨0, by simp only [verdict]; split <;> exact ⟨_, rfl⟩⟩
    | _ => exact ⟨0, _, rfl⟩
  obtain ⟨pick, r, hv⟩ := hv
  by_cases hs0 : s = 0
  · subst hs0; exact ⟨pick, r, _, hv, .finishTop hss hsn hpc hrun⟩
  · exact ⟨pick, r, _, hv, .finish hs0 hsn hss hpc hrun⟩

theorem en_tidy {c : Cfg} {st : StB} (hB : InvB c st) (hP : InvP c st) {s : Nat} {x : Exit}
    (hx : st.pcB s = .tidy x) (hlc : liveChildren c st.a s = []) :
    ∃ e st', internalEv e ∧ StepB c st e st' := by
  rcases en_end hB hP (x := x) (by rw [hx]; rfl) with ⟨st', h⟩ | ⟨hcp, _, pick, r, a', hv, ha⟩
  · exact h.internal trivial
  cases hd : st.didSd s with
  | true => exact (StepB.tidyFinish hx hlc hcp hd hv ha).internal trivial
  | false => exact (StepB.tidyShut (pick := 0) hx hlc hcp hd).internal trivial

theorem en_hStep {c : Cfg} {st : StB} (hB : InvB c st) {s : Nat}
    (hsn : s < c.n) (hss : c.isSched s = true) (hh : st.hph s = .hactive) (hr : relayActive st s = false) :
    ∃ st', StepB c st (.hStep s) st' := by
  have h0 := (hB.handler_range (k := s) (by simp [hh])).1
  cases hd : st.didSd s with
  | true => exact ⟨_, .hStepDone h0 hsn hss hh hr hd⟩
  | false => exact ⟨_, .hStep h0 hsn hss hh hr hd⟩

theorem en_hCancelArrive {c : Cfg} {st : StB} (hA : InvA c st.a) (hB : InvB c st) {s : Nat}
    (hsn : s < c.n) (hr : relayActive st s = true) :
    (∃ st', StepB c st (.hCancelArrive s) st') ∨ (cancelPending st s = false ∧ hcancelPending st s = false) := by
  obtain ⟨hh, hss⟩ := hB.bcRelay s hr
  have h0 := (hB.handler_range (k := s) (by simp [hh])).1
  cases hhcp : hcancelPending st s with
  | false => exact Or.inr ⟨cancelPending_of_relayed hA hB (by simp [hh]) hss, rfl⟩
  | true =>
    obtain ⟨hcr, hca⟩ := hcancelPending_iff.1 hhcp
    rcases relayActive_iff.1 hr with hr | hr
    · exact Or.inl ⟨_, .hCancelWait h0 hsn hss hh hcr hca hr⟩
    · exact Or.inl ⟨_, .hCancelTidy h0 hsn hss hh hcr hca hr⟩

theorem en_sd {c : Cfg} {st : StB} (hA : InvA c st.a) (hB : InvB c st) (hP : InvP c st) {s : Nat} (hsn : s < c.n)
    (hbc : (st.bc s).isWait = true ∨ (st.bc s).isTidy = true) (hact : activeHandlers c st s = []) :
    ∃ e st', internalEv e ∧ StepB c st e st' := by
  cases hb : st.bc s with
  | bnone | bover => simp [hb, Bc.isWait, Bc.isTidy] at hbc
  | bwait w =>
    cases w with
    | inline =>
      obtain ⟨x, hx⟩ := (hB.bcInlineWait s).1 hb
      rcases en_end hB hP (x := x) (by rw [hx]; rfl) with ⟨st', h⟩ | ⟨hcp, hhp, pick, r, a', hv, ha⟩
      · exact h.internal trivial
      · exact (StepB.sdWaitInline hact hcp hhp hb hx hv ha).internal trivial
    | relay =>
      rcases en_hCancelArrive hA hB hsn (relayActive_iff.2 (.inl hb)) with ⟨st', h⟩ | ⟨hcp, hhp⟩
      · exact h.internal trivial
      · exact (StepB.sdWaitRelay (pick := 0) hact hcp hhp hb).internal trivial
  | btidy w =>
    cases w with
    | inline =>
      obtain ⟨x, hx⟩ := (hB.bcInlineTidy s).1 hb
      rcases en_end hB hP (x := x) (by rw [hx]; rfl) with ⟨st', h⟩ | ⟨hcp, hhp, pick, r, a', hv, ha⟩
      · exact h.internal trivial
      · exact (StepB.sdTidyInline hact hcp hhp hb hx hv ha).internal trivial
    | relay =>
      rcases en_hCancelArrive hA hB hsn (relayActive_iff.2 (.inr hb)) with ⟨st', h⟩ | ⟨hcp, hhp⟩
      · exact h.internal trivial
      · exact (StepB.sdTidyRelay (pick := 0) hact hcp hhp hb).internal trivial

theorem en_queued {c : Cfg} {st : StB} {j : Nat} (hjn : j < c.n) (hj0 : 0 < j) (hq : st.a.ph j = .queued)
    (hor : st.a.creq j = true ∨ slotFree c st.a (c.parent j) = true) :
    ∃ e st', internalEv e ∧ StepB c st e st' := by
  cases hc : st.a.creq j with
  | true => exact (StepB.cancelAck (.cancelQueued hj0 hjn hc hq)).internal trivial
  | false =>
    have hf := hor.resolve_left fun h => by rw [hc] at h; cases h
    cases hs : c.isSched j with
    | false => exact (StepB.grantJob (.grantJob hj0 hjn hq hc hf hs) hs).internal trivial
    | true =>
      by_cases he : c.children j = []
      · exact (StepB.grantSched (.grantEmpty hj0 hjn hq hc hf hs he) hs).internal trivial
      · exact (StepB.grantSched (.grantSched hj0 hjn hq hc hf hs he) hs).internal trivial

theorem en_body {c : Cfg} (w : CoreA.WF c) {st : StB} {j : Nat} (hjn : j < c.n) (hjs : c.isSched j = false)
    (hr : st.a.ph j = .running) : ∃ e st', internalEv e ∧ StepB c st e st' := by
  cases hc : st.a.creq j with
  | false => exact (StepB.bodyEnd (ok := true) (.bodyEnd (w.pos_of_atomic hjs) hjn hjs hr hc)).internal trivial
  | true => exact (StepB.cancelAck (.cancelRunning (w.pos_of_atomic hjs) hjn hc hr hjs)).internal trivial

theorem en_handler {c : Cfg} (w : CoreA.WF c) {st : StB} {j : Nat} (hjn : j < c.n) (hjs : c.isSched j = false)
    (hh : st.hph j = .hactive) : ∃ e st', internalEv e ∧ StepB c st e st' := by
  cases hc : st.hcreq j with
  | false => exact (StepB.hEnd (w.pos_of_atomic hjs) hjn hjs hh hc).internal trivial
  | true => exact (StepB.hCancelAck (w.pos_of_atomic hjs) hjn hjs hh hc).internal trivial

theorem quietAt_of_none_enabled {c : Cfg} {st : StB} (hA : InvA c st.a) (hB : InvB c st) (hP : InvP c st) {j : Nat}
    (hjn : j < c.n) (hno : ¬ ∃ e st', internalEv e ∧ StepB c st e st') : QuietAt c st j where
  q1 hc := hno (en_queued hjn hc.1 hc.2.1 hc.2.2)
  q2 hc := hno <| (en_cancelArrive hB hP hjn hc.1 hc.2.1).elim (fun ⟨_, h⟩ => h.internal trivial)
    fun h => by rw [cancelPending_iff.2 hc.2.2] at h; cases h
  q3 hc := hno (en_loop hB hP hjn hc.1 hc.2.1 hc.2.2)
  q4 hc := hno <| by
    obtain ⟨_, ht, hl⟩ := hc
    cases hp : st.pcB j with
    | tidy x => exact en_tidy hB hP hp hl
    | _ => simp [hp, PcB.isTidy] at ht
  q5 hc := hno <| (en_hStep hB hjn hc.1 hc.2.1 hc.2.2).elim fun _ h => h.internal trivial
  q6 hc := hno <| by
    cases hr : relayActive st j
    · exact (en_hStep hB hjn hc.1 hc.2.1 hr).elim fun _ h => h.internal trivial
    · rcases en_hCancelArrive hA hB hjn hr with ⟨st', h⟩ | ⟨_, h⟩
      · exact h.internal trivial
      · rw [hcancelPending_iff.2 hc.2.2] at h; cases h
  q7 hc := hno (en_sd hA hB hP hjn hc.2.1 hc.2.2)

theorem urgent_enabled_internal (c : Cfg) (hwf : c.wf = true) (evs : List EvB) (st : StB)
    (h : acceptB c StB.init evs = some st) (hq : quietB c st = false) :
    ∃ e st', internalEv e ∧ stepB c st e = some st' := by
  refine Classical.byContradiction fun hno => Bool.false_ne_true (hq.symm.trans ((quietB_iff c st).2 fun j hjn => ?_))
  exact quietAt_of_none_enabled (invA_of_reachB c hwf evs st h) (invB_reach c hwf evs st h) (invP_reach c hwf evs st h)
    hjn fun ⟨e, st', hi, hs⟩ => hno ⟨e, st', hi, hs.to_stepB⟩

/-- C03 (no zero-time deadlock): in every reachable state, if the clock may not advance because something urgent
    is pending, then some event other than `tick` is enabled -/
theorem urgent_enabled (c : Cfg) (hwf : c.wf = true) (evs : List EvB) (st : StB)
    (h : acceptB c StB.init evs = some st) (hq : quietB c st = false) :
    ∃ e st', (∀ d, e ≠ .tick d) ∧ stepB c st e = some st' := by
  obtain ⟨e, st', hi, hs⟩ := urgent_enabled_internal c hwf evs st h hq
  exact ⟨e, st', hi.not_tick, hs⟩

theorem en_timeoutFire {c : Cfg} {st : StB} (hB : InvB c st) {s : Nat} (hq : QuietAt c st s)
    (hl : st.pcB s = .loop) (hw : within (st.deadline s) st.a.now 1 = false) :
    ∃ st', StepB c st (.timeoutFire s) st' := by
  obtain ⟨hsn, hss⟩ := hB.pcRange s (by simp [hl])
  obtain ⟨hrx, hD⟩ := quiet_loop hq hss hl
  exact ⟨_, .timeoutFire hl (cancelPending_of_quiet hq hss (hB.runPh s (by simp [hl]) (by simp [hl]))) hrx hD
    (expired_of_within hw) (.leave hsn hss ((hB.pcLoop s).1 hl) fun _ => mem_liveChildren.1)⟩

theorem en_sdTimeoutFire {c : Cfg} {st : StB} (hA : InvA c st.a) (hB : InvB c st) {s : Nat}
    (hq : QuietAt c st s) (hbw : (st.bc s).isWait = true) (hw : within (st.hdeadline s) st.a.now 1 = false) :
    ∃ st', StepB c st (.sdTimeoutFire s) st' := by
  have hds : st.didSd s = true := Bool.of_not_eq_false fun hd => by simp [(hB.bcNone s).2 hd, Bc.isWait] at hbw
  have hss := (hB.didSdRange s hds).2
  have hact : activeHandlers c st s ≠ [] := fun h => hq.q7 ⟨hss, Or.inl hbw, h⟩
  have hexp := expired_of_within hw
  cases hb : st.bc s with
  | bnone | bover | btidy w => simp [hb, Bc.isWait] at hbw
  | bwait w =>
    cases w with
    | inline =>
      obtain ⟨x, hx⟩ := (hB.bcInlineWait s).1 hb
      exact ⟨_, .sdTimeoutInline hb hact hexp (cancelPending_of_quiet hq hss (hB.runPh s (by simp [hx]) (by simp [hx])))
        (hcancelPending_of_inRun hB (by simp [hx]) (by simp [hx])) hx⟩
    | relay =>
      obtain ⟨hh, _⟩ := hB.bcRelay s (relayActive_iff.2 (.inl hb))
      exact ⟨_, .sdTimeoutOther hb hact hexp (cancelPending_of_relayed hA hB (by simp [hh]) hss)
        (Bool.eq_false_iff.2 fun h => hq.q6 ⟨hss, hh, hcancelPending_iff.1 h⟩) (Or.inl rfl)⟩

/-- C03 (deadlines are met): if nothing urgent is pending but the clock may not advance by 1 because an armed
    deadline has been reached, then the corresponding expiry event is enabled -/
theorem deadline_enabled (c : Cfg) (hwf : c.wf = true) (evs : List EvB) (st : StB)
    (h : acceptB c StB.init evs = some st) (hq : quietB c st = true)
    (hno : stepB c st (.tick 1) = none) :
    ∃ s st', stepB c st (.timeoutFire s) = some st' ∨ stepB c st (.sdTimeoutFire s) = some st' := by
  have hA := invA_of_reachB c hwf evs st h
  have hB := invB_reach c hwf evs st h
  have hQ := (quietB_iff c st).1 hq
  -- otherwise every armed deadline lies ahead, and `tick 1` is enabled
  refine Classical.byContradiction fun hnone => ?_
  have htick := (StepB.tick (d := 1) hq (fun s hs hl => Bool.of_not_eq_false fun hw => ?_)
    (fun s hs hbw => Bool.of_not_eq_false fun hw => ?_) Nat.one_pos (calm_of_quiet hB hQ)).to_stepB
  · rw [hno] at htick; cases htick
  · obtain ⟨st', h'⟩ := en_timeoutFire hB (hQ s (List.mem_range.1 hs)) hl hw
    exact hnone ⟨s, st', Or.inl h'.to_stepB⟩
  · obtain ⟨st', h'⟩ := en_sdTimeoutFire hA hB (hQ s (List.mem_range.1 hs)) hbw hw
    exact hnone ⟨s, st', Or.inr h'.to_stepB⟩

/-- In a quiet state, a scheduler that is running, or whose relay is inside its broadcast, waits for one of its jobs:
    in its main loop for a job whose body is executing (`hloop` says which, unless the goal `G` is reached there); in
    its tidy wait for an executing job it has cancelled; while shutting down for a pending handler.  An atomic job
    ends the descent (`hbody`, with what `K` records of the way down; `hhandler`); a nested scheduler is running, or
    its relay is inside its broadcast (quiet: the relay has had its first step), and has a larger id. -/
theorem below {c : Cfg} (w : CoreA.WF c) {st : StB} (hB : InvB c st) (hP : InvP c st)
    (hQ : ∀ j, j < c.n → QuietAt c st j) {G : Prop} {K : Nat → Prop}
    (hcreq : ∀ k, st.a.creq k = true → K k)
    (hloop : ∀ s, s < c.n → c.isSched s = true → st.pcB s = .loop →
      G ∨ ∃ k ∈ c.children s, st.a.ph k = .running ∧ (c.isSched k = false → K k))
    (hbody : ∀ j, j < c.n → c.isSched j = false → st.a.ph j = .running → K j → G)
    (hhandler : ∀ j, j < c.n → c.isSched j = false → st.hph j = .hactive → G) :
    ∀ s, s < c.n → c.isSched s = true → (st.a.ph s = .running ∨ relayActive st s = true) → G := by
  suffices ∀ m s, c.n - s ≤ m → s < c.n → c.isSched s = true →
      (st.a.ph s = .running ∨ relayActive st s = true) → G from fun s => this (c.n - s) s (Nat.le_refl _)
  intro m
  induction m with
  | zero => intro s h1 h2; omega
  | succ m ih =>
    intro s hm hsn hss hcase
    have down : ∀ k ∈ c.children s, c.isSched k = true → (st.a.ph k = .running ∨ relayActive st k = true) → G := by
      intro k hk hks hc
      obtain ⟨hkn, hk0, hkp⟩ := Run.mem_children.1 hk
      have := w.parentLt k (by omega) hkn
      exact ih k (by omega) hkn hks hc
    have hchildRun : ∀ k ∈ c.children s, st.a.ph k = .running → (c.isSched k = false → K k) → G := by
      intro k hk hr hK
      cases hks : c.isSched k
      · exact hbody k (Run.mem_children.1 hk).1 hks hr (hK hks)
      · exact down k hk hks (Or.inl hr)
    have hbcast : (∃ k ∈ c.children s, st.hph k = .hactive) → G := by
      intro ⟨k, hk, hh⟩
      have hkn := (Run.mem_children.1 hk).1
      cases hks : c.isSched k
      · exact hhandler k hkn hks hh
      · exact down k hk hks (Or.inr (Bool.of_not_eq_false fun hr => (hQ k hkn).q5 ⟨hks, hh, hr⟩))
    rcases hcase with hrun | hrel
    · obtain ⟨hnb, hno⟩ := hP.runPc s hss hrun
      cases hp : st.pcB s with
      | notBegun => exact absurd hp hnb
      | over => exact absurd hp hno
      | loop =>
        rcases hloop s hsn hss hp with g | ⟨k, hk, hr, hK⟩
        · exact g
        · exact hchildRun k hk hr hK
      | tidy x =>
        obtain ⟨k, hk, hr, hcr⟩ := tidy_has_running hB hQ hsn hss hp
        exact hchildRun k hk hr fun _ => hcreq k hcr
      | shut x => exact hbcast (quiet_shutting hB (hQ s hsn) hss (.inl hp))
      | shutTidy x => exact hbcast (quiet_shutting hB (hQ s hsn) hss (.inr hp))
    · rcases relayActive_iff.1 hrel with h | h
      · exact hbcast (quiet_shut (hQ s hsn) hss (Or.inl (by simp [h, Bc.isWait])))
      · exact hbcast (quiet_shut (hQ s hsn) hss (Or.inr (by simp [h, Bc.isTidy])))

end AJ.Proofs.ProgB

namespace AJ.Proofs.FinB
open AJ.Run AJ.Full AJ.Proofs.CoreA AJ.Proofs.CoreB AJ.Proofs.ProgB

/-- an atomic job whose body is executing, or whose shutdown handler is pending: something the environment ends -/
def Busy (c : Cfg) (st : StB) : Prop :=
  (∃ j, j < c.n ∧ c.isSched j = false ∧ st.a.ph j = .running) ∨
  (∃ j, j < c.n ∧ c.isSched j = false ∧ st.hph j = .hactive)

/-- the descent `ProgB.below` only ever ends on an atomic job (`m` and its bound are not used: `below` carries its own
    measure) -/
theorem busy_below {c : Cfg} (w : CoreA.WF c) {st : StB} (hA : InvA c st.a) (hB : InvB c st) (hP : InvP c st)
    (hQ : ∀ j, j < c.n → QuietAt c st j) :
    ∀ m s, c.n - s ≤ m → s < c.n → c.isSched s = true → (st.a.ph s = .running ∨ relayActive st s = true) →
      Busy c st := fun _ s _ =>
  below w hB hP hQ (K := fun _ => True) (fun _ _ => trivial)
    (fun _ hsn hss hl =>
      let ⟨k, hk, hr⟩ := loop_has_running w hA hB hP hQ hsn hss hl
      Or.inr ⟨k, hk, hr, fun _ => trivial⟩)
    (fun j hjn hjs hr _ => Or.inl ⟨j, hjn, hjs, hr⟩) (fun j hjn hjs hh => Or.inr ⟨j, hjn, hjs, hh⟩) s

theorem busy_of_reach {c : Cfg} (hwf : c.wf = true) {evs : List EvB} {st : StB} (h : acceptB c StB.init evs = some st)
    (hq : quietB c st = true) (hb : st.pcB 0 ≠ .notBegun) (ho : st.pcB 0 ≠ .over) : Busy c st :=
  have hB := invB_reach c hwf evs st h
  have w := wf_of hwf
  busy_below w (invA_of_reachB c hwf evs st h) hB (invP_reach c hwf evs st h) ((quietB_iff c st).1 hq) _ 0
    (Nat.le_refl _) w.npos w.sched0 (Or.inl (hB.runPh 0 hb ho))

end AJ.Proofs.FinB

namespace AJ.Proofs.ProgB
open AJ.Run AJ.Full

/-- something that ends by itself in finite time (assumption A6) or at a known instant is in flight -/
def InFlight (c : Cfg) (st : StB) : Prop :=
  (∃ j, j < c.n ∧ c.isSched j = false ∧ st.a.ph j = .running) ∨
  (∃ j, j < c.n ∧ c.isSched j = false ∧ st.hph j = .hactive) ∨
  (∃ s dl, s < c.n ∧ st.pcB s = .loop ∧ st.deadline s = some dl) ∨
  (∃ s dl, s < c.n ∧ (st.bc s).isWait = true ∧ st.hdeadline s = some dl)

/-- C03 (never wedged): in every reachable state in which the top-level run has begun and is not over, and
    nothing urgent is pending, something is in flight: a run never sits waiting for nothing.
    (With the slot leak of defect D1 this is false: jobs queued for a slot, none running, no deadline.) -/
theorem never_wedged (c : Cfg) (hwf : c.wf = true) (evs : List EvB) (st : StB)
    (h : acceptB c StB.init evs = some st) (hb : st.pcB 0 ≠ .notBegun) (ho : st.pcB 0 ≠ .over)
    (hq : quietB c st = true) : InFlight c st := by
  exact (FinB.busy_of_reach hwf h hq hb ho).elim Or.inl fun h => Or.inr (Or.inl h)

end AJ.Proofs.ProgB

namespace AJ.Proofs.Gap1
open AJ.Run AJ.Full AJ.Proofs.CoreB AJ.Proofs.ProgB

/-- Up the tree (`parent_ind`): the scheduler of an unfinished job on which no cancellation is pending is in its loop
    (`InvB.loop_of_live`), so its task is running; no cancellation is pending on it — quiet, one would have been
    delivered (`q2`), and a run into which one was delivered is not in its loop (`cancelled_left_loop`) — so it is such
    a job one level up. -/
theorem live_top {c : Cfg} (hwf : c.wf = true) {evs : List EvB} {st : StB} (h : acceptB c StB.init evs = some st)
    (hq : quietB c st = true) (j : Nat) (hj0 : 0 < j) (hjn : j < c.n)
    (hl : (st.a.ph j).live = true) (hcr : st.a.creq j = false) : st.pcB 0 = .loop := by
  have w := CoreA.wf_of hwf
  have hB := invB_reach c hwf evs st h
  refine w.parent_ind (P := fun j => 0 < j → (st.a.ph j).live = true → st.a.creq j = false → st.pcB 0 = .loop)
    (fun h => absurd h (Nat.lt_irrefl 0)) ?_ j hjn hj0 hl hcr
  intro j hj0 hjn ih _ hl hcr
  have hp := hB.loop_of_live (invA_of_reachB c hwf evs st h) (Run.mem_children.2 ⟨hjn, by omega, rfl⟩) hl hcr
  have hrun := hB.runPh (c.parent j) (by simp [hp]) (by simp [hp])
  have hcp : st.a.creq (c.parent j) = false := Bool.eq_false_iff.2 fun hc => by
    cases hca : st.carrived (c.parent j) with
    | false => exact ((quietB_iff c st).1 hq _ (w.parentLtN hj0 hjn)).q2 ⟨w.parentSched j hj0 hjn, hrun, hc, hca⟩
    | true => exact (cancelled_left_loop c hwf evs st h _ hca).1 hp
  by_cases hp0 : c.parent j = 0
  · rwa [hp0] at hp
  · exact ih (by omega) (by simp [hrun, Ph.live]) hcp

end AJ.Proofs.Gap1
