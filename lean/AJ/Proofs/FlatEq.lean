/-
  C10 (d), the arithmetic half, with no reference to histories (`FlatB.run_sat` links them to the start-time equations
  `Timing.Sat`): the equations of a nested tree are those of its flattened graph (`flat_equations`), and they have one
  solution (`sat_unique`); so a tree and a flat graph with the requirements `flatReq`, up to a renaming of the jobs,
  give the same instants to the same jobs (`twin_times`).
-/
import AJ.Model.Flat
import AJ.Proofs.CoreA
namespace AJ.Proofs.FlatEq
open AJ.Run AJ.Flat
open AJ.Proofs.CoreA (WF wf_of)

private theorem foldl_max_le_iff (l : List Nat) (a b : Nat) :
    l.foldl max a ≤ b ↔ a ≤ b ∧ ∀ x ∈ l, x ≤ b := by
  induction l generalizing a with
  | nil => simp
  | cons y l ih => simp only [List.foldl_cons, ih, List.mem_cons, Nat.max_le, forall_eq_or_imp, and_assoc]

theorem sup_le_iff {l : List Nat} {b : Nat} : sup l ≤ b ↔ ∀ x ∈ l, x ≤ b := by
  simp [sup, foldl_max_le_iff]

theorem le_sup_of_mem {l : List Nat} {x : Nat} (h : x ∈ l) : x ≤ sup l :=
  sup_le_iff.1 (Nat.le_refl _) x h

@[simp] theorem sup_nil : sup [] = 0 := rfl

theorem sup_map_le_iff {α : Type} {l : List α} {f : α → Nat} {b : Nat} :
    sup (l.map f) ≤ b ↔ ∀ x ∈ l, f x ≤ b := by
  simp [sup_le_iff]

theorem le_sup_map_of_mem {α : Type} {l : List α} {f : α → Nat} {x : α} (h : x ∈ l) : f x ≤ sup (l.map f) :=
  sup_map_le_iff.1 (Nat.le_refl _) x h

theorem eq_of_forall_ge_iff {x y : Nat} (h : ∀ b, x ≤ b ↔ y ≤ b) : x = y :=
  Nat.le_antisymm ((h y).2 (Nat.le_refl _)) ((h x).1 (Nat.le_refl _))

theorem sup_congr {l l' : List Nat} (h : ∀ x, x ∈ l ↔ x ∈ l') : sup l = sup l' :=
  eq_of_forall_ge_iff fun b => by simp only [sup_le_iff, h]

theorem sup_singleton (a : Nat) : sup [a] = a := by
  simp [sup]

theorem sup_map_le_sup_map {α β : Type} {l : List α} {l' : List β} {f : α → Nat} {g : β → Nat}
    (h : ∀ x ∈ l, ∃ y ∈ l', f x ≤ g y) : sup (l.map f) ≤ sup (l'.map g) :=
  sup_map_le_iff.2 fun x hx => by
    obtain ⟨y, hy, hle⟩ := h x hx
    exact Nat.le_trans hle (le_sup_map_of_mem hy)

theorem sup_map_congr {α : Type} {l : List α} {f g : α → Nat} (h : ∀ x ∈ l, f x = g x) :
    sup (l.map f) = sup (l.map g) := by
  rw [List.map_congr_left h]

theorem sup_map_flatMap {α β : Type} (l : List α) (g : α → List β) (f : β → Nat) :
    sup ((l.flatMap g).map f) = sup (l.map fun r => sup ((g r).map f)) :=
  eq_of_forall_ge_iff fun b => by
    simp only [sup_map_le_iff, List.mem_flatMap]
    exact ⟨fun h r hr x hx => h x ⟨r, hr, hx⟩, fun h x ⟨r, hr, hx⟩ => h r hr x hx⟩

section
variable {c : Cfg} {dur : Nat → Nat} {t : Timing}

theorem mem_lastJobs {s k : Nat} :
    k ∈ lastJobs c s ↔ k ∈ c.children s ∧ ∀ k' ∈ c.children s, k ∉ c.req k' := by
  simp [lastJobs, List.mem_filter]

theorem B_parent_le (hs : t.Sat c dur) {j : Nat} (h0 : 0 < j) (hn : j < c.n) : t.B (c.parent j) ≤ t.B j := by
  rw [hs.begin_ j h0 hn]; exact Nat.le_max_left _ _

theorem E_req_le_B (hs : t.Sat c dur) {j r : Nat} (h0 : 0 < j) (hn : j < c.n) (hr : r ∈ c.req j) :
    t.E r ≤ t.B j := by
  rw [hs.begin_ j h0 hn]
  exact Nat.le_trans (le_sup_map_of_mem hr) (Nat.le_max_right _ _)

theorem B_le_E (w : WF c) (hs : t.Sat c dur) {j : Nat} (hn : j < c.n) : t.B j ≤ t.E j := by
  cases hsc : c.isSched j with
  | true => rw [hs.endSched j hn hsc]; exact Nat.le_max_left _ _
  | false => rw [hs.endJob j (w.pos_of_atomic hsc) hn hsc]; exact Nat.le_add_right _ _

theorem B_parent_le_sup (w : WF c) (hs : t.Sat c dur) {l : List Nat} {k : Nat} (h0 : 0 < k) (hn : k < c.n)
    (hk : k ∈ l) : t.B (c.parent k) ≤ sup (l.map t.E) :=
  Nat.le_trans (B_parent_le hs h0 hn) (Nat.le_trans (B_le_E w hs hn) (le_sup_map_of_mem hk))

theorem B0_le (w : WF c) (hs : t.Sat c dur) : ∀ j, j < c.n → t.B 0 ≤ t.B j :=
  w.parent_ind (Nat.le_refl _) fun _ h hn ih => Nat.le_trans ih (B_parent_le hs h hn)

theorem E_child_le (hs : t.Sat c dur) {s k : Nat} (hsn : s < c.n) (hsc : c.isSched s = true)
    (hk : k ∈ c.children s) : t.E k ≤ t.E s := by
  rw [hs.endSched s hsn hsc]
  exact Nat.le_trans (le_sup_map_of_mem hk) (Nat.le_max_right _ _)

theorem child_le_last (w : WF c) (hs : t.Sat c dur) (s : Nat) :
    ∀ m k, c.n - k ≤ m → k ∈ c.children s → ∃ k' ∈ lastJobs c s, t.E k ≤ t.E k' := by
  intro m
  induction m with
  | zero =>
    intro k hm hk
    have := (mem_children.1 hk).1
    omega
  | succ m ih =>
    intro k hm hk
    by_cases hl : k ∈ lastJobs c s
    · exact ⟨k, hl, Nat.le_refl _⟩
    · obtain ⟨k', hk', hreq⟩ : ∃ k' ∈ c.children s, k ∈ c.req k' := by simpa [mem_lastJobs, hk] using hl
      obtain ⟨hn', h0', _⟩ := mem_children.1 hk'
      have h0' := Nat.pos_of_ne_zero h0'
      have hlt := w.reqLt k' h0' hn' k hreq
      obtain ⟨k'', hk'', hle⟩ := ih k' (by omega) hk'
      exact ⟨k'', hk'', Nat.le_trans (E_req_le_B hs h0' hn' hreq) (Nat.le_trans (B_le_E w hs hn') hle)⟩

theorem E_sched_eq (w : WF c) (hs : t.Sat c dur) {s : Nat} (hsn : s < c.n) (hsc : c.isSched s = true)
    (hne : c.children s ≠ []) : t.E s = sup ((lastJobs c s).map t.E) := by
  have h1 : sup ((c.children s).map t.E) = sup ((lastJobs c s).map t.E) :=
    Nat.le_antisymm
      (sup_map_le_sup_map fun k hk => child_le_last w hs s (c.n - k) k (Nat.le_refl _) hk)
      (sup_map_le_sup_map fun k hk => ⟨k, (mem_lastJobs.1 hk).1, Nat.le_refl _⟩)
  obtain ⟨k, hk⟩ := List.exists_mem_of_ne_nil _ hne
  obtain ⟨hn, h0, hp⟩ := mem_children.1 hk
  have h2 := B_parent_le_sup w hs (Nat.pos_of_ne_zero h0) hn hk
  rw [hp] at h2
  rw [hs.endSched s hsn hsc, ← h1]
  exact Nat.max_eq_right h2

theorem nonempty_of_noEmptyNested (hne : noEmptyNested c = true) {s : Nat} (h0 : 0 < s) (hn : s < c.n)
    (hsc : c.isSched s = true) : c.children s ≠ [] := by
  simp only [noEmptyNested, List.all_eq_true, List.mem_range, Bool.or_eq_true, beq_iff_eq,
    Bool.not_eq_true', List.isEmpty_eq_false_iff] at hne
  rcases hne s hn with (h | h) | h
  · omega
  · rw [hsc] at h; cases h
  · exact h

theorem exitsOf_atomic : ∀ fuel r, 0 < r → r < c.n →
    ∀ x ∈ exitsOf c fuel r, 0 < x ∧ x < c.n ∧ c.isSched x = false := by
  intro fuel
  induction fuel with
  | zero => intro r _ _ x hx; simp [exitsOf] at hx
  | succ fuel ih =>
    intro r h0 hn x hx
    rw [exitsOf] at hx
    split at hx
    · obtain ⟨k, hk, hxk⟩ := List.mem_flatMap.1 hx
      obtain ⟨hkn, hk0, _⟩ := mem_children.1 (mem_lastJobs.1 hk).1
      exact ih k (Nat.pos_of_ne_zero hk0) hkn x hxk
    · next hsc =>
      rw [List.mem_singleton.1 hx]
      exact ⟨h0, hn, by simpa using hsc⟩

theorem E_eq_exits (w : WF c) (hne : noEmptyNested c = true) (hs : t.Sat c dur) :
    ∀ fuel r, c.n - r ≤ fuel → 0 < r → r < c.n → t.E r = sup ((exitsOf c fuel r).map t.E) := by
  intro fuel
  induction fuel with
  | zero => intro r hf _ hn; omega
  | succ fuel ih =>
    intro r hf h0 hn
    rw [exitsOf]
    split
    · next hsc =>
      rw [E_sched_eq w hs hn hsc (nonempty_of_noEmptyNested hne h0 hn hsc), sup_map_flatMap]
      refine sup_map_congr fun k hk => ?_
      obtain ⟨hkn, hk0, hkp⟩ := mem_children.1 (mem_lastJobs.1 hk).1
      have hk0 := Nat.pos_of_ne_zero hk0
      have := w.parentLt k hk0 hkn
      exact ih k (by omega) hk0 hkn
    · simp [sup_singleton]

theorem flatReq_atomic (w : WF c) : ∀ fuel j, j < c.n →
    ∀ x ∈ flatReq c fuel j, 0 < x ∧ x < c.n ∧ c.isSched x = false := by
  intro fuel
  induction fuel with
  | zero => intro j _ x hx; simp [flatReq] at hx
  | succ fuel ih =>
    intro j hn x hx
    rw [flatReq] at hx
    split at hx
    · simp at hx
    · next hj0 =>
      have hj0' := Nat.pos_of_ne_zero hj0
      split at hx
      · exact ih _ (w.parentLtN hj0' hn) x hx
      · obtain ⟨r, hr, hxr⟩ := List.mem_flatMap.1 hx
        have := w.reqLt j hj0' hn r hr
        exact exitsOf_atomic c.n r (w.reqPos j hj0' hn r hr) (by omega) x hxr

theorem B_eq_flat (w : WF c) (hne : noEmptyNested c = true) (hs : t.Sat c dur) :
    ∀ fuel j, j ≤ fuel → j < c.n →
      t.B j = max (t.B 0) (sup ((flatReq c fuel j).map fun r => t.B r + dur r)) := by
  intro fuel
  induction fuel with
  | zero =>
    intro j hf _
    have : j = 0 := by omega
    subst this
    simp [flatReq]
  | succ fuel ih =>
    intro j hf hn
    rw [flatReq]
    split
    · next hj0 => subst hj0; simp
    · next hj0 =>
      have hj0' := Nat.pos_of_ne_zero hj0
      have hpl := w.parentLt j hj0' hn
      rw [hs.begin_ j hj0' hn]
      split
      · next hemp =>
        -- a job without requirement begins with its scheduler
        rw [← ih _ (by omega) (by omega), List.isEmpty_iff.1 hemp]; simp
      · next hnemp =>
        -- every requirement ends when its exit jobs end
        have hS : sup ((c.req j).map t.E) =
            sup (((c.req j).flatMap (exitsOf c c.n)).map fun x => t.B x + dur x) := by
          rw [sup_map_flatMap]
          refine sup_map_congr fun r hr => ?_
          have hr0 := w.reqPos j hj0' hn r hr
          have hrl := w.reqLt j hj0' hn r hr
          rw [E_eq_exits w hne hs c.n r (by omega) hr0 (by omega)]
          refine sup_map_congr fun x hx => ?_
          obtain ⟨hx0, hxn, hxa⟩ := exitsOf_atomic c.n r hr0 (by omega) x hx
          exact hs.endJob x hx0 hxn hxa
        -- and the scheduler had begun before any of them ended
        obtain ⟨r, hr⟩ := List.exists_mem_of_ne_nil _ (by simpa using hnemp : c.req j ≠ [])
        have hp : t.B (c.parent j) ≤ sup ((c.req j).map t.E) :=
          w.reqParent j hj0' hn r hr ▸ B_parent_le_sup w hs (w.reqPos j hj0' hn r hr)
            (Nat.lt_trans (w.reqLt j hj0' hn r hr) hn) hr
        rw [← hS, Nat.max_eq_right hp, Nat.max_eq_right (Nat.le_trans (B0_le w hs _ (w.parentLtN hj0' hn)) hp)]

end

set_option linter.unusedVariables false in
/-- C10 (d), the equations of the flattened graph: an atomic job begins when the run begins or when the last of its
    flattened requirements ends, whichever comes last -/
theorem flat_equations {c : Cfg} {dur : Nat → Nat} {t : Timing}
    (hwf : c.wf = true) (hne : noEmptyNested c = true) (hs : t.Sat c dur)
    {j : Nat} (hj0 : 0 < j) (hjn : j < c.n) (hat : c.isSched j = false) :
    t.B j = max (t.B 0) (sup ((flatReq c c.n j).map fun r => t.B r + dur r)) ∧
    ∀ r ∈ flatReq c c.n j, 0 < r ∧ r < c.n ∧ c.isSched r = false :=
  -- `hj0`, `hat` are not used: `B_eq_flat` holds of every `j < c.n`
  ⟨B_eq_flat (wf_of hwf) hne hs c.n j (by omega) hjn, flatReq_atomic (wf_of hwf) c.n j hjn⟩

/-- two solutions that agree on the begin of scheduler `s` agree on its end and on all its jobs
    (induction on `c.n - s`: the jobs of `s` have larger ids; inside, induction on the id of the job) -/
private theorem sat_unique_sched {c : Cfg} {dur : Nat → Nat} {t t' : Timing} (w : WF c)
    (hs : t.Sat c dur) (hs' : t'.Sat c dur) :
    ∀ m s, c.n - s ≤ m → s < c.n → c.isSched s = true → t.B s = t'.B s →
      t.E s = t'.E s ∧ ∀ k ∈ c.children s, t.B k = t'.B k ∧ t.E k = t'.E k := by
  intro m
  induction m with
  | zero => intro s hm hn; omega
  | succ m ih =>
    intro s hm hsn hsc hB
    have hch : ∀ k, k ∈ c.children s → t.B k = t'.B k ∧ t.E k = t'.E k := by
      intro k
      induction k using Nat.strongRecOn with
      | _ k ihk =>
        intro hk
        obtain ⟨hkn, hk0, hkp⟩ := mem_children.1 hk
        have hk0' := Nat.pos_of_ne_zero hk0
        have hBk : t.B k = t'.B k := by
          rw [hs.begin_ k hk0' hkn, hs'.begin_ k hk0' hkn, hkp, hB,
            sup_map_congr fun r hr => (ihk r (w.reqLt k hk0' hkn r hr) (w.req_child hk hr)).2]
        refine ⟨hBk, ?_⟩
        cases hksc : c.isSched k with
        | false => rw [hs.endJob k hk0' hkn hksc, hs'.endJob k hk0' hkn hksc, hBk]
        | true =>
          have := w.parentLt k hk0' hkn
          exact (ih k (by omega) hkn hksc hBk).1
    refine ⟨?_, hch⟩
    rw [hs.endSched s hsn hsc, hs'.endSched s hsn hsc, hB, sup_map_congr fun k hk => (hch k hk).2]

/-- C10 (d), uniqueness: the instant at which the run begins determines all the others -/
theorem sat_unique {c : Cfg} {dur : Nat → Nat} {t t' : Timing}
    (hwf : c.wf = true) (hs : t.Sat c dur) (hs' : t'.Sat c dur) (h0 : t.B 0 = t'.B 0) :
    ∀ j, j < c.n → t.B j = t'.B j ∧ t.E j = t'.E j := by
  have w := wf_of hwf
  have huniq := fun s hsn => sat_unique_sched w hs hs' c.n s (by omega) hsn
  refine w.parent_ind ⟨h0, (huniq 0 w.npos w.sched0 h0).1⟩ fun j h hn ih => ?_
  exact (huniq _ (w.parentLtN h hn) (w.parentSched j h hn) ih.1).2 j (mem_children.2 ⟨hn, by omega, rfl⟩)

theorem sat_congr_dur {c : Cfg} {t : Timing} {dur dur' : Nat → Nat} (hs : t.Sat c dur)
    (hd : ∀ j, 0 < j → j < c.n → c.isSched j = false → dur' j = dur j) : t.Sat c dur' :=
  ⟨hs.begin_, fun j h0 hn ha => by rw [hd j h0 hn ha]; exact hs.endJob j h0 hn ha, hs.endSched⟩

/-- the hypothesis of `twin_times` on the requirements of `ρ j`, from an equation between lists -/
theorem mem_req_of_eq_map {ρ : Nat → Nat} {l l' : List Nat} (h : l' = l.map ρ) (x : Nat) :
    x ∈ l' ↔ ∃ r ∈ l, x = ρ r := by
  simp [h, eq_comm]

/-- C10 (d), same times in the flattened graph: `c'` is flat, `ρ` names in `c'` the atomic jobs of `c`, with the same
    durations, and the requirements of `ρ j` in `c'` are the images of the flattened requirements of `j`;
    then solutions of the two systems that begin together give the same times to `j` and `ρ j`.
    `ρ` need not be injective nor onto. -/
theorem twin_times {c c' : Cfg} {dur dur' : Nat → Nat} {t t' : Timing} {ρ : Nat → Nat}
    (hwf : c.wf = true) (hne : noEmptyNested c = true)
    (hwf' : c'.wf = true)
    (hflat : ∀ j, 0 < j → j < c'.n → c'.parent j = 0 ∧ c'.isSched j = false)
    (hρ : ∀ j, 0 < j → j < c.n → c.isSched j = false →
      0 < ρ j ∧ ρ j < c'.n ∧ dur' (ρ j) = dur j ∧
      ∀ x, x ∈ c'.req (ρ j) ↔ ∃ r ∈ flatReq c c.n j, x = ρ r)
    (hs : t.Sat c dur) (hs' : t'.Sat c' dur') (h0 : t.B 0 = t'.B 0) :
    ∀ j, 0 < j → j < c.n → c.isSched j = false → t'.B (ρ j) = t.B j ∧ t'.E (ρ j) = t.E j := by
  have w' := wf_of hwf'
  have key : ∀ m j, ρ j = m → 0 < j → j < c.n → c.isSched j = false →
      t'.B (ρ j) = t.B j ∧ t'.E (ρ j) = t.E j := by
    intro m
    induction m using Nat.strongRecOn with
    | _ m ih =>
      intro j hm hj0 hjn hat
      obtain ⟨hρ0, hρn, hdur, hreq⟩ := hρ j hj0 hjn hat
      obtain ⟨hfe, hfa⟩ := flat_equations hwf hne hs hj0 hjn hat
      obtain ⟨hpar, hat'⟩ := hflat (ρ j) hρ0 hρn
      have hB : t'.B (ρ j) = t.B j := by
        rw [hs'.begin_ (ρ j) hρ0 hρn, hpar, hfe, h0]
        congr 1
        have himg : ∀ r ∈ flatReq c c.n j, t'.E (ρ r) = t.B r + dur r := by
          intro r hr
          obtain ⟨hr0, hrn, hra⟩ := hfa r hr
          have hlt := w'.reqLt (ρ j) hρ0 hρn _ ((hreq _).2 ⟨r, hr, rfl⟩)
          rw [(ih (ρ r) (by omega) r rfl hr0 hrn hra).2, hs.endJob r hr0 hrn hra]
        exact Nat.le_antisymm
          (sup_map_le_sup_map fun x hx => by
            obtain ⟨r, hr, rfl⟩ := (hreq x).1 hx
            exact ⟨r, hr, Nat.le_of_eq (himg r hr)⟩)
          (sup_map_le_sup_map fun r hr => ⟨ρ r, (hreq _).2 ⟨r, hr, rfl⟩, Nat.le_of_eq (himg r hr).symm⟩)
      refine ⟨hB, ?_⟩
      rw [hs'.endJob (ρ j) hρ0 hρn hat', hs.endJob j hj0 hjn hat, hB, hdur]
  intro j
  exact key (ρ j) j rfl

/-! The hypotheses can be met: a tree of depth 2 and its flat twin. -/
namespace Example

def base : Cfg :=
  { n := 0, parent := fun _ => 0, isSched := fun j => j == 0, req := fun _ => [], critical := fun _ => false,
    forever := fun _ => false, window := fun _ => 0, timeout := fun _ => none, sdTimeout := fun _ => none,
    topPure := true }

def c : Cfg :=
  { base with
    n := 8
    parent := fun j => match j with | 3 => 2 | 4 => 2 | 5 => 2 | 6 => 5 | _ => 0
    isSched := fun j => match j with | 0 => true | 2 => true | 5 => true | _ => false
    req := fun j => match j with | 2 => [1] | 4 => [3] | 7 => [2] | _ => [] }

def dur : Nat → Nat := fun j => match j with | 1 => 2 | 3 => 3 | 4 => 1 | 6 => 5 | 7 => 4 | _ => 0

def t : Timing :=
  { B := fun j => match j with | 0 => 1 | 1 => 1 | 2 => 3 | 3 => 3 | 4 => 6 | 5 => 3 | 6 => 3 | 7 => 8 | _ => 0
    E := fun j => match j with | 0 => 12 | 1 => 3 | 2 => 8 | 3 => 6 | 4 => 7 | 5 => 8 | 6 => 8 | 7 => 12 | _ => 0 }

theorem c_wf : c.wf = true := by decide
theorem c_nonempty : noEmptyNested c = true := by decide

example : c.wf = true := c_wf
example : noEmptyNested c = true := c_nonempty

theorem t_sat : t.Sat c dur := by
  refine ⟨?_, ?_, ?_⟩
  · have : ∀ j, j < 8 → 0 < j → t.B j = max (t.B (c.parent j)) (sup ((c.req j).map t.E)) := by decide
    exact fun j h0 hn => this j hn h0
  · have : ∀ j, j < 8 → 0 < j → c.isSched j = false → t.E j = t.B j + dur j := by decide
    exact fun j h0 hn => this j hn h0
  · have : ∀ s, s < 8 → c.isSched s = true → t.E s = max (t.B s) (sup ((c.children s).map t.E)) := by decide
    exact this

example : flatReq c c.n 1 = [] := by decide
example : flatReq c c.n 3 = [1] := by decide
example : flatReq c c.n 4 = [3] := by decide
example : flatReq c c.n 6 = [1] := by decide
example : flatReq c c.n 7 = [4, 6] := by decide

def ρ : Nat → Nat := fun j => match j with | 1 => 1 | 3 => 2 | 4 => 3 | 6 => 4 | 7 => 5 | _ => 0

def c' : Cfg :=
  { base with
    n := 6
    req := fun j => match j with | 2 => [1] | 3 => [2] | 4 => [1] | 5 => [3, 4] | _ => [] }

def dur' : Nat → Nat := fun j => match j with | 1 => 2 | 2 => 3 | 3 => 1 | 4 => 5 | 5 => 4 | _ => 0

def t' : Timing :=
  { B := fun j => match j with | 0 => 1 | 1 => 1 | 2 => 3 | 3 => 6 | 4 => 3 | 5 => 8 | _ => 0
    E := fun j => match j with | 0 => 12 | 1 => 3 | 2 => 6 | 3 => 7 | 4 => 8 | 5 => 12 | _ => 0 }

theorem t'_sat : t'.Sat c' dur' := by
  refine ⟨?_, ?_, ?_⟩
  · have : ∀ j, j < 6 → 0 < j → t'.B j = max (t'.B (c'.parent j)) (sup ((c'.req j).map t'.E)) := by decide
    exact fun j h0 hn => this j hn h0
  · have : ∀ j, j < 6 → 0 < j → c'.isSched j = false → t'.E j = t'.B j + dur' j := by decide
    exact fun j h0 hn => this j hn h0
  · have : ∀ s, s < 6 → c'.isSched s = true → t'.E s = max (t'.B s) (sup ((c'.children s).map t'.E)) := by decide
    exact this

theorem c'_flat : ∀ j, 0 < j → j < c'.n → c'.parent j = 0 ∧ c'.isSched j = false := by
  have : ∀ j, j < 6 → 0 < j → c'.parent j = 0 ∧ c'.isSched j = false := by decide
  exact fun j h0 hn => this j hn h0

theorem ρ_ok : ∀ j, 0 < j → j < c.n → c.isSched j = false →
    0 < ρ j ∧ ρ j < c'.n ∧ dur' (ρ j) = dur j ∧ ∀ x, x ∈ c'.req (ρ j) ↔ ∃ r ∈ flatReq c c.n j, x = ρ r := by
  have : ∀ j, j < 8 → 0 < j → c.isSched j = false →
      0 < ρ j ∧ ρ j < c'.n ∧ dur' (ρ j) = dur j ∧ c'.req (ρ j) = (flatReq c c.n j).map ρ := by decide
  intro j h0 hn hat
  obtain ⟨h1, h2, h3, h4⟩ := this j hn h0 hat
  exact ⟨h1, h2, h3, mem_req_of_eq_map h4⟩

/-- `twin_times` applies: the five jobs run at the same instants in the tree and in its flat twin -/
example : ∀ j, 0 < j → j < c.n → c.isSched j = false → t'.B (ρ j) = t.B j ∧ t'.E (ρ j) = t.E j :=
  twin_times c_wf c_nonempty (by decide) c'_flat ρ_ok t_sat t'_sat rfl

/-- and `flat_equations` on job `7`: it begins when `4` and `6`, the exit jobs of scheduler `2`, have ended -/
example : t.B 7 = max (t.B 0) (sup ([4, 6].map fun r => t.B r + dur r)) :=
  (flat_equations c_wf c_nonempty t_sat (by decide) (by decide) (by decide)).1

/-- `sat_unique`: any solution that begins at instant 1 is `t` -/
example (u : Timing) (hu : u.Sat c dur) (h : u.B 0 = 1) : u.B 7 = 8 ∧ u.E 0 = 12 :=
  ⟨(sat_unique c_wf hu t_sat h 7 (by decide)).1, (sat_unique c_wf hu t_sat h 0 (by decide)).2⟩

end Example

end AJ.Proofs.FlatEq
