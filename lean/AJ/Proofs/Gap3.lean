/-
  Configurations, concrete histories and `example`s only: the two counter-examples to the simpler `False` half of
  `sdvalue_false_means` and the non-vacuity of the C11 / C13 theorems of this namespace, which stand in ShutB.lean,
  and of its C14 theorems of ResA.lean.
-/
import AJ.Proofs.ShutB
namespace AJ.Proofs.Gap3
open AJ.Run AJ.Full AJ.Proofs.CoreB

/-- first way: the top-level broadcast (with `shutdown_timeout = 0`) expires at once and cancels the relay of the
    nested scheduler `1` before its first step; `1` had already shut down, so that first step returns at once:
    `co_shutdown()` of `0` reports `False`, no handler ended cancelled, the request on the relay of `1` still stands
    (configuration and history of `CoreB.hcreqCex`, plus the return of the clean-up) -/
theorem sdvalue_false_cex_relay :
    hcreqCex.wf = true ∧
    (acceptB hcreqCex StB.init (hcreqCexEvs ++ [.sdTidyReturn 0 0])).map
      (fun st => (st.sdValue 0, (hcreqCex.children 0).map st.hph, st.hcreq 1, st.didSd 1, st.carrived 0, st.hcarrived 0)) =
    some (some false, [.hdone], true, true, false, false) := by
  decide

def cancCfg : Cfg :=
  { n := 4, parent := fun j => if j = 2 then 1 else 0, isSched := fun j => j = 0 || j = 1, req := fun _ => [],
    critical := fun j => j = 3, forever := fun _ => false, window := fun _ => 0, timeout := fun _ => none,
    sdTimeout := fun _ => none, topPure := true }

/-- `1` ends, shuts down inline, its only handler ends; before the bounded wait of that `co_shutdown()` returns, job
    `3` fails, the top-level scheduler cancels `1`, and the `CancelledError` is delivered into that wait -/
def cancEvs : List EvB :=
  [.runBegin, .grant 1, .grant 3, .grant 2, .bodyEnd 2 true, .waitReturn 1, .react 1, .tidyReturn 1 0, .hEnd 2,
   .bodyEnd 3 false, .waitReturn 0, .react 0, .cancelArrive 1, .sdTidyReturn 1 0]

/-- second way: the call of `co_shutdown()` is itself interrupted by a `CancelledError` (in the code it raises; the
    model records `some false`): no handler was cancelled nor asked to -/
theorem sdvalue_false_cex_cancelled :
    cancCfg.wf = true ∧
    (acceptB cancCfg StB.init cancEvs).map
      (fun st => (st.sdValue 1, (cancCfg.children 1).map st.hph, st.hcreq 2, st.carrived 1, st.a.ph 1)) =
    some (some false, [.hdone], false, true, .cancelled) := by
  decide

/-- non-vacuity of `sdvalue_true_means`: a reachable state with `sdValue 1 = some true` -/
example : (acceptB hcreqCex StB.init (hcreqCexEvs.take 9)).map (fun st => st.sdValue 1) = some (some true) := by
  decide

/-- non-vacuity of `over_stays_quiet`, `shut_down_stays_quiet_later`, `shut_down_freezes`, `over_freezes`: in
    `CoreB.hcreqCex` the nested run `1` is over (and has shut down) after 9 events, and the history goes on for 5 more
    events -/
example : (acceptB hcreqCex StB.init (hcreqCexEvs.take 9)).map (fun st => (st.pcB 1, st.didSd 1)) = some (.over, true) ∧
    ((acceptB hcreqCex StB.init (hcreqCexEvs.take 9)).bind
      (fun st => acceptB hcreqCex st (hcreqCexEvs.drop 9))).isSome = true := by
  decide

def oneJobCfg : Cfg :=
  { n := 2, parent := fun _ => 0, isSched := fun j => j = 0, req := fun _ => [],
    critical := fun _ => false, forever := fun _ => false, window := fun _ => 0, timeout := fun _ => none,
    sdTimeout := fun _ => none, topPure := true }

/-- non-vacuity of `cancelled_stays`, `never_done_after_cancel` (ResA.lean): a job whose task finishes cancelled (the
    run is left while the job executes), and the history goes on -/
example : (acceptAL oneJobCfg StA.init [.runBegin, .grant 1, .tick 1, .leave 0 [1], .cancelAck 1]).map
      (fun st => st.ph 1) = some .cancelled ∧
    (acceptAL oneJobCfg StA.init [.runBegin, .grant 1, .tick 1, .leave 0 [1], .cancelAck 1, .tick 1,
      .finish 0 (some (.retBool false))]).isSome = true := by
  decide

end AJ.Proofs.Gap3
