/-
  What one step of layer B does to one component of the state, each proved once by `cases` on `StepB`: the run record
  of a scheduler (`pc_cases`), its main wait (`wait_cases`), the clock, and the embedded layer-A state (`StepB.proj`: a
  step leaves it alone or makes on it the layer-A step of the event `ProjA` names, through which the lemmas of
  `StepA.lean` are read at layer B).  The shutdown sub-state is in `StepSd`.  A fact about one step is a few-line
  corollary of these.
-/
import AJ.Proofs.StepB

namespace AJ.Proofs.BoundB
open AJ.Full

def isTick : EvB → Bool
  | .tick _ => true
  | _ => false

theorem isTick_iff {e : EvB} : isTick e = true ↔ ∃ d, e = .tick d :=
  ⟨fun h => match e, h with | .tick d, _ => ⟨d, rfl⟩, fun ⟨_, h⟩ => h ▸ rfl⟩

theorem isTick_false {e : EvB} (h : ∀ d, e ≠ .tick d) : isTick e = false :=
  Bool.eq_false_iff.2 fun ht => let ⟨d, hd⟩ := isTick_iff.1 ht; h d hd

end AJ.Proofs.BoundB

namespace AJ.Full
open AJ.Run

def PcB.exiting : PcB → Bool
  | .tidy _ => true | .shut _ => true | .shutTidy _ => true | _ => false

/-- the reason for which the run left its main loop, while it is tidying / shutting down -/
def PcB.exitOf : PcB → Option Exit
  | .tidy x => some x | .shut x => some x | .shutTidy x => some x | _ => none

/-- the event and guard with which the run of `s` leaves its loop for reason `x` -/
def ExitReason (c : Cfg) (st : StB) (e : EvB) (s : Nat) : Exit → Prop
  | .critical => e = .react s ∧ ∃ D, st.a.rx s = some D ∧ critIn c st.a D = true
  | .success => e = .react s ∧ ∃ D, st.a.rx s = some D ∧ critIn c st.a D = false ∧
      st.nbDone s + (D.filter fun d => !c.forever d).length = nbFinite c s
  | .timeout => ∃ dl, st.deadline s = some dl ∧ dl ≤ st.a.now ∧
      ((e = .timeoutFire s ∧ doneSet c st.a s = []) ∨
       (e = .react s ∧ ∃ D, st.a.rx s = some D ∧ critIn c st.a D = false ∧
          st.nbDone s + (D.filter fun d => !c.forever d).length ≠ nbFinite c s))
  | .cancelled => e = .cancelArrive s
  | .crashed => e = .orchFail s ∧ ∃ D, st.a.rx s = some D

theorem expired_some {dl : Option Nat} {now : Nat} (h : expired dl now = true) : ∃ d, dl = some d ∧ d ≤ now := by
  unfold expired at h
  split at h
  · rename_i d; exact ⟨d, rfl, by simpa using h⟩
  · cases h

theorem expired_of_within {dl : Option Nat} {now : Nat} (h : within dl now 1 = false) : expired dl now = true := by
  cases dl with
  | none => simp [within] at h
  | some x => simp only [within, decide_eq_false_iff_not] at h; simp only [expired, decide_eq_true_eq]; omega

/-- layer A when `s` leaves its main loop: `cancel()` on every unfinished job of `s` (its fields are read by
    unfolding: `rfl`, `simp [leaveA]`) -/
def leaveA (c : Cfg) (a : StA) (s : Nat) : StA :=
  { a with pc := setAt a.pc s .exiting, rx := setAt a.rx s none,
           creq := fun k => a.creq k || decide (k ∈ liveChildren c a s) }

/-- the moves of a run that is cleaning up, short of its end, each with its event: a `CancelledError` is delivered (the
    reason becomes `cancelled`), the tidy wait returns and the broadcast begins, the bounded wait of the broadcast expires -/
inductive ExitMove (c : Cfg) (st : StB) (e : EvB) (s : Nat) : PcB → PcB → Prop
  | tidyCancelled (x) (he : e = .cancelArrive s) : ExitMove c st e s (.tidy x) (.tidy .cancelled)
  | shutdown (x pick) (he : e = .tidyReturn s pick) (hlive : liveChildren c st.a s = []) (hsd : st.didSd s = false) :
      ExitMove c st e s (.tidy x) (.shut x)
  | shutCancelled (x) (he : e = .cancelArrive s) : ExitMove c st e s (.shut x) (.shutTidy .cancelled)
  | shutExpired (x) (he : e = .sdTimeoutFire s) (hbc : st.bc s = .bwait .inline) :
      ExitMove c st e s (.shut x) (.shutTidy x)
  | shutTidyCancelled (x) (he : e = .cancelArrive s) : ExitMove c st e s (.shutTidy x) (.shutTidy .cancelled)

theorem ExitMove.exitOf {c : Cfg} {st : StB} {e : EvB} {s : Nat} {p q : PcB} (h : ExitMove c st e s p q) :
    ∃ x x', p.exitOf = some x ∧ q.exitOf = some x' ∧ (x' = x ∨ x' = .cancelled) := by
  cases h <;> exact ⟨_, _, rfl, rfl, by simp⟩

theorem ExitMove.not_over {c : Cfg} {st : StB} {e : EvB} {s : Nat} {p q : PcB} (h : ExitMove c st e s p q) :
    q ≠ .over := by
  cases h <;> simp

/-- the three events that end `co_run` of `s`, each with the wait whose return it is -/
inductive EndsBy (c : Cfg) (st : StB) (e : EvB) (s pick : Nat) (x : Exit) : Prop
  | tidyReturns (ev : e = .tidyReturn s pick) (pc : st.pcB s = .tidy x) (quiet : liveChildren c st.a s = [])
      (didSd : st.didSd s = true)
  | sdWaitReturns (ev : e = .sdWaitReturn s pick) (pc : st.pcB s = .shut x) (bc : st.bc s = .bwait .inline)
      (quiet : activeHandlers c st s = [])
  | sdTidyReturns (ev : e = .sdTidyReturn s pick) (pc : st.pcB s = .shutTidy x) (bc : st.bc s = .btidy .inline)
      (quiet : activeHandlers c st s = [])

theorem EndsBy.event {c : Cfg} {st : StB} {e : EvB} {s pick : Nat} {x : Exit} (h : EndsBy c st e s pick x) :
    e = .tidyReturn s pick ∨ e = .sdWaitReturn s pick ∨ e = .sdTidyReturn s pick :=
  match h with
  | .tidyReturns (ev := h) .. => .inl h
  | .sdWaitReturns (ev := h) .. => .inr (.inl h)
  | .sdTidyReturns (ev := h) .. => .inr (.inr h)

/-- what one step does to the run record of scheduler `s` -/
inductive PcStep (c : Cfg) (st : StB) (e : EvB) (st' : StB) (s : Nat) : Prop
  | same (pc : st'.pcB s = st.pcB s) (failT : st'.failT s = st.failT s) (failC : st'.failC s = st.failC s)
      (tbegin : st'.tbegin s = st.tbegin s)
  /-- `was`: without `InvA` this is all the guards give; `InvB.notBegun_of_queued` turns it into `pcB s = .notBegun` -/
  | begins (ev : e = .runBegin ∧ s = 0 ∨ e = .grant s ∧ c.isSched s = true)
      (pc : st'.pcB s = (if (c.children s).isEmpty then .over else .loop))
      (failT : st'.failT s = st.failT s) (failC : st'.failC s = st.failC s) (tbegin : st'.tbegin s = st.a.now)
      (was : st.a.ph s = .queued ∨ st.a.pc s = .notBegun)
  | leaves (x : Exit) (loop : st.pcB s = .loop) (pc : st'.pcB s = .tidy x) (reason : ExitReason c st e s x)
      (failT : st'.failT s = (st.failT s || x == .timeout)) (failC : st'.failC s = (st.failC s || x == .critical))
      (tbegin : st'.tbegin s = st.tbegin s) (a : st'.a = leaveA c st.a s)
  | moves (move : ExitMove c st e s (st.pcB s) (st'.pcB s))
      (failT : st'.failT s = st.failT s) (failC : st'.failC s = st.failC s) (tbegin : st'.tbegin s = st.tbegin s)
  | ends (x : Exit) (pick : Nat) (r : Option Res) (exit : (st.pcB s).exitOf = some x)
      (verdict : verdict c st s x pick = some r) (a : StepA c st.a (.finish s r) st'.a) (pc : st'.pcB s = .over)
      (failT : st'.failT s = st.failT s) (failC : st'.failC s = st.failC s) (tbegin : st'.tbegin s = st.tbegin s)
      (by_ : EndsBy c st e s pick x)

theorem pc_cases {c : Cfg} {st st' : StB} {e : EvB} (h : StepB c st e st') (s : Nat) : PcStep c st e st' s := by
  -- the run of `s0` leaves its loop for `x`: all six ways go through `exitLoop`
  have leaves : ∀ {s0 : Nat} (nb : Nat → Nat) (ca : Nat → Bool) (x : Exit) {a' : StA}, st.pcB s0 = .loop →
      ExitReason c st e s0 x → a' = leaveA c st.a s0 →
      PcStep c st e (exitLoop c { st with nbDone := nb, carrived := ca } s0 x a') s := by
    intro s0 nb ca x a' hpc hr ha
    by_cases hs : s = s0
    · subst hs; exact .leaves x hpc (setAt_self ..) hr (setAt_self ..) (setAt_self ..) rfl ha
    · exact .same (setAt_of_ne _ _ hs) (setAt_of_ne _ _ hs) (setAt_of_ne _ _ hs) rfl
  cases h
  case grantJob | bodyEnd | cancelAck | waitReturn | reactGo | tick | extCancel | hStepDone | hStep | hEnd
      | hCancelAck | hCancelWait | hCancelTidy | sdWaitRelay | sdTimeoutOther | sdTidyRelay =>
    exact .same rfl rfl rfl rfl
  case runBegin a' ha =>
    rw [beginB_eq]
    by_cases hs : s = 0
    · subst hs; exact .begins (.inl ⟨rfl, rfl⟩) rfl rfl rfl rfl (.inr ha.runBegin_inv.2)
    · exact .same (setAt_of_ne _ _ hs) rfl rfl (setAt_of_ne _ _ hs)
  case grantSched j a' ha hj =>
    rw [beginB_eq]
    by_cases hs : s = j
    · subst hs; exact .begins (.inr ⟨rfl, hj⟩) (setAt_self ..) rfl rfl (setAt_self ..) (.inl ha.grant_inv.2.2.1)
    · exact .same (setAt_of_ne _ _ hs) rfl rfl (setAt_of_ne _ _ hs)
  case cancelLoop s0 a' hsn hss hph hcr hca hpc ha => exact leaves _ _ .cancelled hpc rfl (ha.leave_eq (.inl rfl))
  case reactCritical s0 D a' hpc hrx hcp hcrit ha =>
    exact leaves st.nbDone st.carrived .critical hpc ⟨rfl, D, hrx, hcrit⟩ (ha.leave_eq (.inr rfl))
  case reactSuccess s0 D a' hpc hrx hcp hcrit hnb ha =>
    exact leaves _ st.carrived .success hpc ⟨rfl, D, hrx, hcrit, hnb⟩ (ha.leave_eq (.inr rfl))
  case reactTimeout s0 D a' hpc hrx hcp hcrit hnb hexp ha =>
    obtain ⟨dl, hdl, hle⟩ := expired_some hexp
    exact leaves _ st.carrived .timeout hpc ⟨dl, hdl, hle, .inr ⟨rfl, D, hrx, hcrit, hnb⟩⟩ (ha.leave_eq (.inr rfl))
  case orchFail s0 D a' hpc hrx hcp ha =>
    exact leaves st.nbDone st.carrived .crashed hpc ⟨rfl, D, hrx⟩ (ha.leave_eq (.inr rfl))
  case timeoutFire s0 a' hpc hcp hrx hD hexp ha =>
    obtain ⟨dl, hdl, hle⟩ := expired_some hexp
    exact leaves st.nbDone st.carrived .timeout hpc ⟨dl, hdl, hle, .inl ⟨rfl, hD⟩⟩ (ha.leave_eq (.inl rfl))
  case cancelTidy s0 x hsn hss hph hcr hca hpc =>
    by_cases hs : s = s0
    · subst hs
      exact .moves (by simp only [hpc, setAt_self]; exact .tidyCancelled x rfl) rfl rfl rfl
    · exact .same (setAt_of_ne _ _ hs) rfl rfl rfl
  case cancelShut s0 x hsn hss hph hcr hca hpc =>
    by_cases hs : s = s0
    · subst hs
      exact .moves (by simp only [hpc, setAt_self]; exact .shutCancelled x rfl) rfl rfl rfl
    · exact .same (setAt_of_ne _ _ hs) rfl rfl rfl
  case cancelShutTidy s0 x hsn hss hph hcr hca hpc =>
    by_cases hs : s = s0
    · subst hs
      exact .moves (by simp only [hpc, setAt_self]; exact .shutTidyCancelled x rfl) rfl rfl rfl
    · exact .same (setAt_of_ne _ _ hs) rfl rfl rfl
  case tidyShut s0 pick x hpc hlive hcp hsd =>
    by_cases hs : s = s0
    · subst hs
      exact .moves (by simp only [hpc, setAt_self]; exact .shutdown x pick rfl hlive hsd) rfl rfl rfl
    · exact .same (setAt_of_ne _ _ hs) rfl rfl rfl
  case sdTimeoutInline s0 x hbc hact hexp hcp hhp hpc =>
    by_cases hs : s = s0
    · subst hs
      exact .moves (by simp only [hpc, setAt_self]; exact .shutExpired x rfl hbc) rfl rfl rfl
    · exact .same (setAt_of_ne _ _ hs) rfl rfl rfl
  case tidyFinish s0 pick x r a' hpc hlive hcp hsd hv ha =>
    by_cases hs : s = s0
    · subst hs
      exact .ends x pick r (congrArg PcB.exitOf hpc) hv ha (setAt_self ..) rfl rfl rfl (.tidyReturns rfl hpc hlive hsd)
    · exact .same (setAt_of_ne _ _ hs) rfl rfl rfl
  case sdWaitInline s0 pick x r a' hact hcp hhp hbc hpc hv ha =>
    by_cases hs : s = s0
    · subst hs
      exact .ends x pick r (congrArg PcB.exitOf hpc) hv ha (setAt_self ..) rfl rfl rfl
        (.sdWaitReturns rfl hpc hbc hact)
    · exact .same (setAt_of_ne _ _ hs) rfl rfl rfl
  case sdTidyInline s0 pick x r a' hact hcp hhp hbc hpc hv ha =>
    by_cases hs : s = s0
    · subst hs
      exact .ends x pick r (congrArg PcB.exitOf hpc) hv ha (setAt_self ..) rfl rfl rfl
        (.sdTidyReturns rfl hpc hbc hact)
    · exact .same (setAt_of_ne _ _ hs) rfl rfl rfl

theorem StepB.begun {c : Cfg} {st st' : StB} {e : EvB} (h : StepB c st e st') (s : Nat) (hb : st.pcB s ≠ .notBegun) :
    st'.pcB s ≠ .notBegun := by
  match pc_cases h s with
  | .same (pc := h1) .. => rw [h1]; exact hb
  | .begins (pc := h1) .. => rw [h1]; split <;> simp
  | .leaves (pc := h1) .. | .ends (pc := h1) .. => rw [h1]; simp
  | .moves (move := hm) .. =>
    obtain ⟨_, x', _, hx', _⟩ := hm.exitOf
    intro hn; rw [hn] at hx'; cases hx'

/-- how a run comes to be in its main loop after a step: it was there (and at most counted some reports, without
    reaching the number of its regular jobs), or it has just begun -/
theorem loop_back {c : Cfg} {st st' : StB} {e : EvB} (h : StepB c st e st') (s : Nat) (hl : st'.pcB s = .loop) :
    (st.pcB s = .loop ∧ st'.deadline s = st.deadline s ∧ st'.tbegin s = st.tbegin s ∧
      (st'.nbDone s = st.nbDone s ∨ st'.nbDone s ≠ nbFinite c s)) ∨
    (c.children s ≠ [] ∧ st'.nbDone s = 0 ∧ st'.deadline s = (c.timeout s).map (st.a.now + ·) ∧
      st'.tbegin s = st.a.now) := by
  cases h
  case grantJob | bodyEnd | cancelAck | waitReturn | tick | extCancel | hStepDone | hStep | hEnd | hCancelAck
      | hCancelWait | hCancelTidy | sdWaitRelay | sdTimeoutOther | sdTidyRelay =>
    exact .inl ⟨hl, rfl, rfl, .inl rfl⟩
  case runBegin | grantSched =>
    rcases beginB_loop hl with ⟨hs, h1⟩ | ⟨hs, he⟩
    · rw [beginB_eq]; exact .inl ⟨h1, setAt_of_ne _ _ hs, setAt_of_ne _ _ hs, .inl (setAt_of_ne _ _ hs)⟩
    · rw [beginB_of_ne (hs ▸ he)]; subst hs; exact .inr ⟨he, by simp, by simp, by simp⟩
  case reactGo s0 D a' hpc hrx hcp hcrit hnb hexp ha =>
    by_cases hs : s = s0
    · subst hs
      exact .inl ⟨hpc, rfl, rfl, .inr (by rw [show (_ : StB).nbDone s = _ from setAt_self ..]; exact hnb)⟩
    · exact .inl ⟨hl, rfl, rfl, .inl (setAt_of_ne _ _ hs)⟩
  -- the other steps take the run of some `s0` to a point that is not `loop`, so `s` is not `s0`: every component
  -- of the run of `s` is left alone, or set at `s0`
  all_goals
    have hs := (setAt_elim (· = PcB.loop) hl nofun).1
    refine .inl ⟨(setAt_of_ne _ _ hs).symm.trans hl, ?_, ?_, .inl ?_⟩ <;>
      first | rfl | exact setAt_of_ne _ _ hs

theorem tidy_timeout_back {c : Cfg} {st st' : StB} {e : EvB} (h : StepB c st e st') {s : Nat}
    (hx : st'.pcB s = .tidy .timeout) :
    st.pcB s = .tidy .timeout ∨ (st.pcB s = .loop ∧ expired (st.deadline s) st.a.now = true) := by
  match pc_cases h s with
  | .same (pc := h1) .. => exact .inl (h1 ▸ hx)
  | .begins (pc := h1) .. => rw [h1] at hx; split at hx <;> cases hx
  | .leaves (loop := hl) (pc := h1) (reason := hr) .. =>
    rw [h1] at hx; cases hx
    obtain ⟨dl, hdl, hle, _⟩ := hr
    exact .inr ⟨hl, by simp [expired, hdl, hle]⟩
  | .moves (move := hm) .. =>
    generalize st.pcB s = p at hm
    rw [hx] at hm; cases hm
  | .ends (pc := h1) .. => rw [h1] at hx; cases hx

/-- the phase in which the task of `s` ends after leaving its loop for a reason (the phases of its critical jobs
    read in `a`): a scheduler converts its failure into an exception only if it is critical itself and not a
    `PureScheduler` at the top (purescheduler.py `co_run`, scheduler.py `co_run`) -/
def EndOf (c : Cfg) (a : StA) (s : Nat) (p : Ph) : Exit → Prop
  | .success => p = .done (.retBool true)
  | .cancelled => p = .cancelled
  | .crashed => p = .done (.exc (.orch s))
  | .timeout => p = if nestable c s && c.critical s then .done (.exc (.tmo s)) else .done (.retBool false)
  | .critical =>
      if nestable c s && c.critical s then
        ∃ k ∈ c.children s, c.critical k = true ∧ ∃ ex, a.ph k = .done (.exc ex) ∧ p = .done (.exc ex)
      else p = .done (.retBool false)

theorem verdict_end {c : Cfg} {st : StB} {s : Nat} {x : Exit} {pick : Nat} {r : Option Res}
    (h : verdict c st s x pick = some r) : EndOf c st.a s (finPh r) x := by
  cases x <;> simp only [verdict, EndOf] at h ⊢
  · cases h; rfl
  · split at h
    · rename_i hc
      rw [if_pos hc]
      split at h
      · rename_i hp
        split at h
        · rename_i ex hex; cases h; exact ⟨pick, hp.1, hp.2, ex, hex, rfl⟩
        · cases h
      · cases h
    · rename_i hc
      rw [if_neg hc]; cases h; rfl
  · split at h <;> cases h <;> simp [*, finPh]
  · cases h; rfl
  · cases h; rfl

theorem EndOf.mono {c : Cfg} {a a' : StA} {s : Nat} {p : Ph} {x : Exit} (h : EndOf c a s p x)
    (hf : ∀ k, (a.ph k).isDone = true → a'.ph k = a.ph k) : EndOf c a' s p x := by
  cases x <;> try exact h
  simp only [EndOf] at h ⊢
  split at h
  · rename_i hc
    obtain ⟨k, hk, hkc, ex, hke, hp⟩ := h
    rw [if_pos hc]
    exact ⟨k, hk, hkc, ex, by rw [hf k (by rw [hke]; rfl), hke], hp⟩
  · rename_i hc
    rw [if_neg hc]; exact h

theorem verdict_true {c : Cfg} {st : StB} {s : Nat} {x : Exit} {pick : Nat}
    (h : verdict c st s x pick = some (some (.retBool true))) : x = .success := by
  have := verdict_end h
  cases x <;> simp only [EndOf, finPh] at this
  · rfl
  · split at this
    · obtain ⟨_, _, _, _, _, h1⟩ := this; cases h1
    · cases this
  · split at this <;> cases this
  · cases this
  · cases this

theorem verdict_none {c : Cfg} {st : StB} {s : Nat} {x : Exit} {pick : Nat}
    (h : verdict c st s x pick = some none) : x = .cancelled := by
  have := verdict_end h
  cases x <;> simp only [EndOf, finPh] at this
  · cases this
  · split at this
    · obtain ⟨_, _, _, _, _, h1⟩ := this; cases h1
    · cases this
  · split at this <;> cases this
  · rfl
  · cases this

theorem carrived_cases {c : Cfg} {st st' : StB} {e : EvB} (h : StepB c st e st') (s : Nat) :
    st'.carrived s = st.carrived s ∨
    (e = .cancelArrive s ∧ st.carrived s = false ∧ st'.carrived s = true ∧ (st'.pcB s).exitOf = some .cancelled) := by
  cases h
  case cancelLoop s0 _ _ _ _ _ hca _ _ | cancelTidy s0 _ _ _ _ _ hca _ | cancelShut s0 _ _ _ _ _ hca _
      | cancelShutTidy s0 _ _ _ _ _ hca _ =>
    by_cases hs : s = s0
    · subst hs; exact .inr ⟨rfl, hca, setAt_self .., congrArg PcB.exitOf (setAt_self ..)⟩
    · exact .inl (setAt_of_ne _ _ hs)
  case runBegin | grantSched => rw [beginB_eq]; exact .inl rfl
  all_goals exact .inl rfl

theorem StepB.creq_cases {c : Cfg} {st st' : StB} {e : EvB} (h : StepB c st e st') (k : Nat) :
    st'.a.creq k = st.a.creq k ∨ st'.a.creq k = false ∨ (e = .extCancel ∧ k = 0) ∨
    ∃ s x, st.pcB s = .loop ∧ st'.pcB s = .tidy x ∧ k ∈ liveChildren c st.a s := by
  -- the layer-A step, given what its event is at layer B when it is `extCancel`, `leave s _` or `react s true _`
  have key : ∀ {ea : EvA} {a' : StA}, StepA c st.a ea a' → (ea = .extCancel → e = .extCancel) →
      (∀ s K, ea = .leave s K → st.pcB s = .loop ∧ ∃ x, st'.pcB s = .tidy x) →
      (∀ s K, ea = .react s true K → st.pcB s = .loop ∧ ∃ x, st'.pcB s = .tidy x) →
      a'.creq k = st.a.creq k ∨ a'.creq k = false ∨ (e = .extCancel ∧ k = 0) ∨
      ∃ s x, st.pcB s = .loop ∧ st'.pcB s = .tidy x ∧ k ∈ liveChildren c st.a s := by
    intro ea a' ha h1 h2 h3
    rcases Run.creq_cases ha k with h | ⟨h, _⟩ | ⟨_, ⟨h, hk⟩ | ⟨s, K, he, _, _, hk, hl⟩⟩
    · exact .inl h
    · exact .inr (.inl h)
    · exact .inr (.inr (.inl ⟨h1 h, hk⟩))
    · obtain ⟨hpc, x, hx⟩ := he.elim (h2 s K) (h3 s K)
      exact .inr (.inr (.inr ⟨s, x, hpc, hx, mem_liveChildren.2 ⟨hk, hl⟩⟩))
  cases h
  case cancelTidy | cancelShut | cancelShutTidy | tidyShut | hStepDone | hStep | hEnd | hCancelAck | hCancelWait
      | hCancelTidy | sdWaitRelay | sdTimeoutInline | sdTimeoutOther | sdTidyRelay | tick =>
    exact .inl rfl
  case cancelLoop hpc ha | timeoutFire hpc _ _ _ _ ha =>
    exact key ha nofun (fun _ _ he => by cases he; exact ⟨hpc, _, setAt_self _ _ _⟩) nofun
  case reactCritical hpc _ _ _ ha | reactSuccess hpc _ _ _ _ ha | reactTimeout hpc _ _ _ _ _ ha | orchFail hpc _ _ ha =>
    exact key ha nofun nofun (fun _ _ he => by cases he; exact ⟨hpc, _, setAt_self _ _ _⟩)
  case extCancel ha => exact key ha (fun _ => rfl) nofun nofun
  case runBegin ha | grantSched ha _ => rw [beginB_a]; exact key ha nofun nofun nofun
  case grantJob ha _ | bodyEnd ha | cancelAck ha | waitReturn _ _ ha | reactGo _ _ _ _ _ _ ha | tidyFinish _ _ _ _ _ ha
      | sdWaitInline _ _ _ _ _ _ ha | sdTidyInline _ _ _ _ _ _ ha =>
    exact key ha nofun nofun nofun

/-- what one step does to the main wait of scheduler `s`: the pending `done` set, the count of reported regular jobs,
    the reports of its jobs -/
inductive WaitStep (c : Cfg) (st : StB) (e : EvB) (st' : StB) (s : Nat) : Prop
  | same (rx : st'.a.rx s = st.a.rx s) (nbDone : st'.nbDone s = st.nbDone s)
      (deliv : ∀ k ∈ c.children s, st'.a.deliv k = st.a.deliv k) (loop : st'.pcB s = .loop → st.pcB s = .loop)
  | returns (ev : e = .waitReturn s) (rx : st'.a.rx s = some (doneSet c st.a s))
  | reactGoes (ev : e = .react s) (loop : st'.pcB s = .loop) (rx : st'.a.rx s = none)
      (nbDone : st'.nbDone s ≠ nbFinite c s) (deliv : st'.a.deliv = st.a.deliv)
  | leaves (x : Exit) (was : st.pcB s = .loop) (pc : st'.pcB s = .tidy x) (rx : st'.a.rx s = none)
      (deliv : st'.a.deliv = st.a.deliv)
  | begins
      (ev : e = .runBegin ∧ s = 0 ∧ st.a.pc s = .notBegun ∨ e = .grant s ∧ c.isSched s = true ∧ st.a.ph s = .queued)
      (pc : st'.pcB s = (if (c.children s).isEmpty then .over else .loop)) (deliv : st'.a.deliv = st.a.deliv)

theorem wait_cases {c : Cfg} {st st' : StB} {e : EvB} (h : StepB c st e st') (s : Nat) : WaitStep c st e st' s := by
  have leaves : ∀ {s0 : Nat} (nb : Nat → Nat) (ca : Nat → Bool) (x : Exit) {a' : StA}, st.pcB s0 = .loop →
      a' = leaveA c st.a s0 → (s ≠ s0 → nb s = st.nbDone s) →
      WaitStep c st e (exitLoop c { st with nbDone := nb, carrived := ca } s0 x a') s := by
    intro s0 nb ca x a' hpc ha hnb
    subst ha
    by_cases hs0 : s = s0
    · subst hs0; exact .leaves x hpc (setAt_self ..) (setAt_self ..) rfl
    · exact .same (setAt_of_ne _ _ hs0) (hnb hs0) (fun _ _ => rfl) (fun h => (setAt_elim (· = PcB.loop) h (by simp)).2)
  cases h
  -- steps that touch neither the main waits nor (towards `loop`) the program counters
  case hStepDone | hStep | hEnd | hCancelAck | hCancelWait | hCancelTidy | sdWaitRelay | sdTimeoutOther | sdTidyRelay
      | tick =>
    exact .same rfl rfl (fun _ _ => rfl) id
  case cancelTidy | cancelShut | cancelShutTidy | tidyShut | sdTimeoutInline =>
    exact .same rfl rfl (fun _ _ => rfl) (fun h => (setAt_elim (· = PcB.loop) h (by simp)).2)
  case bodyEnd ha | cancelAck ha | extCancel ha =>
    cases ha <;> exact .same rfl rfl (fun _ _ => rfl) id
  case grantJob ha hs =>
    cases ha with
    | grantJob => exact .same rfl rfl (fun _ _ => rfl) id
    | grantEmpty _ _ _ _ _ hs' | grantSched _ _ _ _ _ hs' => rw [hs] at hs'; cases hs'
  case tidyFinish ha | sdWaitInline ha | sdTidyInline ha =>
    cases ha <;> exact .same rfl rfl (fun _ _ => rfl) (fun h => (setAt_elim (· = PcB.loop) h (by simp)).2)
  case waitReturn s0 a' hpc hcp ha =>
    cases ha with
    | waitReturn hsn hs hpc' hrx hD =>
      by_cases hs0 : s = s0
      · subst hs0; exact .returns rfl (setAt_self ..)
      · refine .same (setAt_of_ne _ _ hs0) rfl (fun k hk => ?_) id
        have : k ∉ doneSet c st.a s0 := fun hd => hs0 (children_inj hk (Run.mem_doneSet.1 hd).1)
        simp [this]
  case reactGo s0 D a' hpc hrx hcp hcrit hnb hexp ha =>
    cases ha with
    | reactGo hrx' hsn hs hpc' =>
      by_cases hs0 : s = s0
      · subst hs0; exact .reactGoes rfl hpc (setAt_self ..) (by simpa using hnb) rfl
      · exact .same (setAt_of_ne _ _ hs0) (setAt_of_ne _ _ hs0) (fun _ _ => rfl) id
  case cancelLoop hpc ha => exact leaves _ _ _ hpc (ha.leave_eq (.inl rfl)) fun _ => rfl
  case timeoutFire hpc _ _ _ _ ha => exact leaves st.nbDone st.carrived _ hpc (ha.leave_eq (.inl rfl)) fun _ => rfl
  case reactCritical hpc _ _ _ ha | orchFail hpc _ _ ha =>
    exact leaves st.nbDone st.carrived _ hpc (ha.leave_eq (.inr rfl)) fun _ => rfl
  case reactSuccess hpc _ _ _ _ ha | reactTimeout hpc _ _ _ _ _ ha =>
    exact leaves _ st.carrived _ hpc (ha.leave_eq (.inr rfl)) (setAt_of_ne _ _)
  case runBegin a' ha =>
    rw [beginB_eq]
    by_cases hs0 : s = 0
    · subst hs0
      exact .begins (.inl ⟨rfl, rfl, ha.runBegin_inv.2⟩) rfl (by cases ha <;> rfl)
    · cases ha <;>
        exact .same (by simp [startJobs, setAt, hs0]) (setAt_of_ne _ _ hs0) (fun _ _ => rfl) (by simp [setAt, hs0])
  case grantSched j a' ha hs =>
    rw [beginB_eq]
    by_cases hs0 : s = j
    · subst hs0
      exact .begins (.inr ⟨rfl, hs, ha.grant_inv.2.2.1⟩) (setAt_self ..) (by cases ha <;> rfl)
    · cases ha <;>
        exact .same (by simp [startJobs, setAt, hs0]) (setAt_of_ne _ _ hs0) (fun _ _ => rfl) (by simp [setAt, hs0])

/-- the layer-A event a layer-B event stands for in state `st`, with what its guard says of layer B (none for the
    events of the shutdown handlers, nor for a cancellation delivered outside the main loop) -/
inductive ProjA (c : Cfg) (st : StB) : EvB → EvA → Prop
  | runBegin : ProjA c st .runBegin .runBegin
  | grant {j} : ProjA c st (.grant j) (.grant j)
  | bodyEnd {j ok} : ProjA c st (.bodyEnd j ok) (.bodyEnd j ok)
  | cancelAck {j} : ProjA c st (.cancelAck j) (.cancelAck j)
  | cancelLoop {s} (hpc : st.pcB s = .loop) : ProjA c st (.cancelArrive s) (.leave s (liveChildren c st.a s))
  | waitReturn {s} : ProjA c st (.waitReturn s) (.waitReturn s)
  | reactLeave {s} (hpc : st.pcB s = .loop) : ProjA c st (.react s) (.react s true (liveChildren c st.a s))
  | reactGo {s} (hpc : st.pcB s = .loop) : ProjA c st (.react s) (.react s false [])
  | orchFail {s} (hpc : st.pcB s = .loop) : ProjA c st (.orchFail s) (.react s true (liveChildren c st.a s))
  | timeoutFire {s} (hpc : st.pcB s = .loop) : ProjA c st (.timeoutFire s) (.leave s (liveChildren c st.a s))
  | tidyFinish {s pick x r} (hpc : st.pcB s = .tidy x) (hsd : st.didSd s = true)
      (hv : verdict c st s x pick = some r) : ProjA c st (.tidyReturn s pick) (.finish s r)
  | sdWaitInline {s pick x r} (hpc : st.pcB s = .shut x) (hbc : st.bc s = .bwait .inline)
      (hv : verdict c st s x pick = some r) : ProjA c st (.sdWaitReturn s pick) (.finish s r)
  | sdTidyInline {s pick x r} (hpc : st.pcB s = .shutTidy x) (hbc : st.bc s = .btidy .inline)
      (hv : verdict c st s x pick = some r) : ProjA c st (.sdTidyReturn s pick) (.finish s r)
  | tick {d} : ProjA c st (.tick d) (.tick d)
  | extCancel : ProjA c st .extCancel .extCancel

theorem ProjA.finish_inv {c : Cfg} {st : StB} {e : EvB} {s : Nat} {r : Option Res} (hp : ProjA c st e (.finish s r)) :
    ∃ x pick, (st.pcB s).exitOf = some x ∧ verdict c st s x pick = some r := by
  cases hp
  case tidyFinish pick x hpc _ hv | sdWaitInline pick x hpc _ hv | sdTidyInline pick x hpc _ hv =>
    exact ⟨x, pick, by rw [hpc]; rfl, hv⟩

theorem StepB.proj {c : Cfg} {st st' : StB} {e : EvB} (h : StepB c st e st') :
    st'.a = st.a ∨ ∃ ea, ProjA c st e ea ∧ StepA c st.a ea st'.a := by
  cases h
  case cancelTidy | cancelShut | cancelShutTidy | tidyShut | hStepDone | hStep | hEnd | hCancelAck | hCancelWait
      | hCancelTidy | sdWaitRelay | sdTimeoutInline | sdTimeoutOther | sdTidyRelay => exact .inl rfl
  case runBegin a' ha => exact .inr ⟨_, .runBegin, by rw [beginB_eq]; exact ha⟩
  case grantJob j a' ha hs => exact .inr ⟨_, .grant, ha⟩
  case grantSched j a' ha hs => exact .inr ⟨_, .grant, by rw [beginB_eq]; exact ha⟩
  case bodyEnd ha => exact .inr ⟨_, .bodyEnd, ha⟩
  case cancelAck ha => exact .inr ⟨_, .cancelAck, ha⟩
  case cancelLoop hpc ha => exact .inr ⟨_, .cancelLoop hpc, ha⟩
  case waitReturn ha => exact .inr ⟨_, .waitReturn, ha⟩
  case reactCritical hpc _ _ _ ha | reactSuccess hpc _ _ _ _ ha | reactTimeout hpc _ _ _ _ _ ha =>
    exact .inr ⟨_, .reactLeave hpc, ha⟩
  case reactGo hpc _ _ _ _ _ ha => exact .inr ⟨_, .reactGo hpc, ha⟩
  case orchFail hpc _ _ ha => exact .inr ⟨_, .orchFail hpc, ha⟩
  case timeoutFire hpc _ _ _ _ ha => exact .inr ⟨_, .timeoutFire hpc, ha⟩
  case tidyFinish hpc _ _ hsd hv ha => exact .inr ⟨_, .tidyFinish hpc hsd hv, ha⟩
  case sdWaitInline hbc hpc hv ha => exact .inr ⟨_, .sdWaitInline hpc hbc hv, ha⟩
  case sdTidyInline hbc hpc hv ha => exact .inr ⟨_, .sdTidyInline hpc hbc hv, ha⟩
  case tick => exact .inr ⟨_, .tick, .tick ‹0 < _›⟩
  case extCancel ha => exact .inr ⟨_, .extCancel, ha⟩

theorem StepB.ph_final {c : Cfg} {st st' : StB} {e : EvB} (h : StepB c st e st') {j : Nat}
    (hf : (st.a.ph j).isDone = true ∨ st.a.ph j = .cancelled) : st'.a.ph j = st.a.ph j := by
  rcases h.proj with heq | ⟨_, _, ha⟩
  · rw [heq]
  · exact Run.ph_final ha hf

theorem StepB.frozen {c : Cfg} {st st' : StB} {e : EvB} (h : StepB c st e st') {k : Nat} (hk : k ≠ 0)
    (h1 : (st.a.ph k).live = false) (h2 : (st'.a.ph k).live = false) :
    st'.a.ph k = st.a.ph k ∧ st'.a.entries k = st.a.entries k := by
  rcases h.proj with heq | ⟨ea, _, ha⟩
  · rw [heq]; exact ⟨rfl, rfl⟩
  · exact Run.frozen ha hk h1 h2

theorem frozen_later {c : Cfg} {st st' : StB} {more : List EvB} (h' : acceptB c st more = some st') {k : Nat} (hk : k ≠ 0)
    (hq : ∀ pre st1, acceptB c st pre = some st1 → (st1.a.ph k).live = false) :
    st'.a.ph k = st.a.ph k ∧ st'.a.entries k = st.a.entries k :=
  (isRunB c).induction (P := fun _ st1 => st1.a.ph k = st.a.ph k ∧ st1.a.entries k = st.a.entries k) h' ⟨rfl, rfl⟩
    fun pre st1 _ st2 hpre ⟨hp, he⟩ hs =>
      let ⟨f1, f2⟩ := (StepB.of_stepB hs).frozen hk (hq pre st1 hpre) (hq _ st2 ((isRunB c).snoc_some.2 ⟨st1, hpre, hs⟩))
      ⟨f1.trans hp, f2.trans he⟩

theorem StepB.deliv_mono {c : Cfg} {st st' : StB} {e : EvB} (h : StepB c st e st') {k : Nat}
    (hd : st.a.deliv k = true) : st'.a.deliv k = true := by
  rcases h.proj with heq | ⟨_, _, ha⟩
  · rwa [heq]
  · rcases deliv_cases ha k with h1 | ⟨_, _, _, _, h1⟩
    · rwa [h1]
    · exact h1

theorem deliv_later {c : Cfg} {evs : List EvB} {sta st0 : StB} {k : Nat} (h : acceptB c sta evs = some st0)
    (hd : sta.a.deliv k = true) : st0.a.deliv k = true :=
  (isRunB c).invariant h hd fun _ _ _ hd hs => (StepB.of_stepB hs).deliv_mono hd

theorem StepB.deliv_loop {c : Cfg} {st st' : StB} {e : EvB} (h : StepB c st e st') {k : Nat}
    (hd : st'.a.deliv k = true) :
    st.a.deliv k = true ∨ (k ∈ c.children (c.parent k) ∧ st.a.pc (c.parent k) = .loop) := by
  rcases h.proj with heq | ⟨_, _, ha⟩
  · exact .inl (heq ▸ hd)
  · exact Run.deliv_loop ha hd

theorem StepB.tick_inv {c : Cfg} {st st' : StB} {d : Nat} (h : StepB c st (.tick d) st') :
    quietB c st = true ∧ 0 < d ∧ st' = { st with a := { st.a with now := st.a.now + d } } ∧ Calm c st.a := by
  cases h
  exact ⟨‹quietB c st = true›, ‹0 < d›, rfl, ‹Calm c st.a›⟩

theorem StepB.grant_inv {c : Cfg} {st st' : StB} {j : Nat} (h : StepB c st (.grant j) st') :
    0 < j ∧ j < c.n ∧ st.a.ph j = .queued ∧ st.a.creq j = false ∧ slotFree c st.a (c.parent j) = true := by
  cases h with
  | grantJob ha | grantSched ha => exact ha.grant_inv

theorem StepB.bodyEnd_inv {c : Cfg} {st st' : StB} {j : Nat} {ok : Bool} (h : StepB c st (.bodyEnd j ok) st') :
    0 < j ∧ j < c.n ∧ c.isSched j = false ∧ st.a.ph j = .running ∧ st.a.creq j = false := by
  cases h with
  | bodyEnd ha => exact ha.bodyEnd_inv

theorem StepB.quiet_of_isTick {c : Cfg} {st st' : StB} {e : EvB} (h : StepB c st e st')
    (ht : Proofs.BoundB.isTick e = true) : quietB c st = true := by
  obtain ⟨d, rfl⟩ := Proofs.BoundB.isTick_iff.1 ht
  exact h.tick_inv.1

theorem StepB.cancelArrive_inv {c : Cfg} {st st' : StB} {s : Nat} (h : StepB c st (.cancelArrive s) st') :
    s < c.n ∧ c.isSched s = true ∧ st.a.ph s = .running ∧ st.a.creq s = true ∧ st.carrived s = false := by
  cases h
  case cancelLoop h1 h2 h3 h4 h5 _ _ | cancelTidy h1 h2 h3 h4 h5 _ | cancelShut h1 h2 h3 h4 h5 _
      | cancelShutTidy h1 h2 h3 h4 h5 _ =>
    exact ⟨h1, h2, h3, h4, h5⟩

theorem StepB.now_cases {c : Cfg} {st st' : StB} {e : EvB} (h : StepB c st e st') :
    st'.a.now = st.a.now ∨ ∃ d, e = .tick d ∧ quietB c st = true ∧ st'.a.now = st.a.now + d := by
  rcases h.proj with heq | ⟨ea, hp, ha⟩
  · rw [heq]; exact Or.inl rfl
  · rcases Run.now_cases ha with h1 | ⟨d, rfl, _, h1⟩
    · exact Or.inl h1
    · cases hp; exact Or.inr ⟨d, rfl, h.tick_inv.1, h1⟩

theorem StepB.now_le {c : Cfg} {st st' : StB} {e : EvB} (h : StepB c st e st') : st.a.now ≤ st'.a.now := by
  rcases h.now_cases with h1 | ⟨d, _, _, h1⟩ <;> omega

theorem now_le_of_accept {c : Cfg} {st x : StB} {pre : List EvB} (h : acceptB c st pre = some x) :
    st.a.now ≤ x.a.now :=
  (isRunB c).invariant (P := fun y => st.a.now ≤ y.a.now) h (Nat.le_refl _) fun _ _ _ hy hs =>
    Nat.le_trans hy (StepB.of_stepB hs).now_le

theorem now_const {c : Cfg} {st st' : StB} {b : List EvB} (h : acceptB c st b = some st')
    (hb : ∀ x ∈ b, Proofs.BoundB.isTick x = false) : st'.a.now = st.a.now := by
  refine (isRunB c).induction (P := fun pre s1 => (∀ x ∈ pre, Proofs.BoundB.isTick x = false) → s1.a.now = st.a.now) h
    (fun _ => rfl) ?_ hb
  intro pre s1 e s2 _ ih hs hb
  rcases (StepB.of_stepB hs).now_cases with h1 | ⟨d, rfl, _⟩
  · rw [h1]; exact ih fun x hx => hb x (by simp [hx])
  · cases hb (.tick d) (by simp)

end AJ.Full
