/-
  C10 (d) as one statement about two histories: `FlatB.run_sat` (both histories obey the start-time equations) composed
  with `FlatEq.twin_times` (the equations of the tree are those of its flattened graph, and have one solution).
  The tie to the code: `ajdriver flatreq` computes `flatReq` for the configuration of a scenario, and the C10 check
  compares it with the requirements of the twin that `harness/dyn_gen.flatten_variant` builds and runs.
-/
import AJ.Proofs.FlatB
namespace AJ.Proofs.FlatC
open AJ.Run AJ.Flat AJ.Full AJ.Proofs.FlatEq AJ.Proofs.FlatB

/-- what is assumed of a history in C10 (d): it is accepted and complete, nothing fails, nothing is limited, and
    shutdown handlers take no time -/
structure PlainRun (c : Cfg) (evs : List EvB) : Prop where
  wf     : c.wf = true
  over   : ∃ st, acceptB c StB.init evs = some st ∧ st.pcB 0 = .over
  plain  : ∀ j, j < c.n → c.window j = 0 ∧ c.timeout j = none ∧ c.forever j = false
  ok     : ∀ j ok, EvB.bodyEnd j ok ∈ evs → ok = true
  nofail : ∀ s, EvB.orchFail s ∉ evs
  noext  : EvB.extCancel ∉ evs
  zero   : ∀ a d b sta, evs = a ++ EvB.tick d :: b → acceptB c StB.init a = some sta →
             ∀ k, k < c.n → sta.hph k ≠ .hactive

theorem PlainRun.sat {c : Cfg} {evs : List EvB} (p : PlainRun c evs) : (timingOf c evs).Sat c (durOf c evs) := by
  obtain ⟨st, h, hover⟩ := p.over
  exact run_sat c p.wf evs st h hover p.plain p.ok p.nofail p.noext p.zero

/-- C10 (d): in such a history every job did begin and end (the default `0` of `timingOf` is never used), and ended
    after it began -/
theorem plain_run_defined (c : Cfg) (evs : List EvB) (p : PlainRun c evs) (j : Nat) (hj : j < c.n) :
    (∃ t, firstNow c (beganP j) StB.init evs = some t) ∧ (∃ t, firstNow c (endedP j) StB.init evs = some t) ∧
    (timingOf c evs).B j ≤ (timingOf c evs).E j := by
  obtain ⟨st, h, hover⟩ := p.over
  obtain ⟨tb, te, hb, he, hle⟩ := run_defined p.wf h hover p.plain p.ok p.nofail p.noext j hj
  exact ⟨⟨tb, hb⟩, ⟨te, he⟩, by simpa only [timingOf, hb, he, Option.getD_some] using hle⟩

/-- C10 (d), "for critical nested schedulers without window, timeout or forever jobs, every job runs at the same
    times as in the flattened graph": `c` is a nested tree, `c'` a flat graph (one scheduler, atomic jobs only); `ρ`
    renames the atomic jobs of `c` into jobs of `c'` whose requirements are (as a set) the renamed `flatReq c j` — the
    exit jobs of what `j` requires, inherited from the enclosing schedulers when `j` requires nothing — and whose
    bodies last as long.  If the two top-level runs begin at the same instant, every atomic job begins and ends at the
    same instants in the two histories. -/
theorem flatten_same_times (c c' : Cfg) (evs evs' : List EvB) (ρ : Nat → Nat)
    (p : PlainRun c evs) (p' : PlainRun c' evs')
    (hne : noEmptyNested c = true)
    (hflat : ∀ j, 0 < j → j < c'.n → c'.parent j = 0 ∧ c'.isSched j = false)
    (hρ : ∀ j, 0 < j → j < c.n → c.isSched j = false →
      0 < ρ j ∧ ρ j < c'.n ∧ durOf c' evs' (ρ j) = durOf c evs j ∧
      ∀ x, x ∈ c'.req (ρ j) ↔ ∃ r ∈ flatReq c c.n j, x = ρ r)
    (h0 : (timingOf c evs).B 0 = (timingOf c' evs').B 0) :
    ∀ j, 0 < j → j < c.n → c.isSched j = false →
      (timingOf c' evs').B (ρ j) = (timingOf c evs).B j ∧ (timingOf c' evs').E (ρ j) = (timingOf c evs).E j :=
  twin_times p.wf hne p'.wf hflat hρ p.sat p'.sat h0

/-- C10 (d) for one configuration run twice (`c' = c`, `ρ = id` is not an instance of the above since `c` is nested;
    this is `sat_unique`): two plain runs of the same tree in which the bodies of the atomic jobs last as long and that
    begin at the same instant give every job — schedulers included — the same instants: the times do not depend on the
    order in which the event loop serves what happens in one instant -/
theorem plain_runs_same_times' (c : Cfg) (evs evs' : List EvB) (p : PlainRun c evs) (p' : PlainRun c evs')
    (hd : ∀ j, 0 < j → j < c.n → c.isSched j = false → durOf c evs j = durOf c evs' j)
    (h0 : (timingOf c evs).B 0 = (timingOf c evs').B 0) :
    ∀ j, j < c.n → (timingOf c evs).B j = (timingOf c evs').B j ∧ (timingOf c evs).E j = (timingOf c evs').E j :=
  sat_unique p.wf p.sat (sat_congr_dur p'.sat hd) h0

theorem plain_runs_same_times (c : Cfg) (evs evs' : List EvB) (p : PlainRun c evs) (p' : PlainRun c evs')
    (hd : ∀ j, durOf c evs' j = durOf c evs j)
    (h0 : (timingOf c evs).B 0 = (timingOf c evs').B 0) :
    ∀ j, j < c.n → (timingOf c evs).B j = (timingOf c evs').B j ∧ (timingOf c evs).E j = (timingOf c evs').E j :=
  plain_runs_same_times' c evs evs' p p' (fun j _ _ _ => (hd j).symm) h0

theorem plainCheck_spec (c : Cfg) (evs : List EvB) (h : plainCheck c evs = true) : PlainRun c evs := by
  obtain ⟨hwf, hacc, hplain, hok, hnf, hz⟩ := plainCheck_parts h
  exact ⟨hwf, hacc, hplain, okCheck_spec evs hok, (nfCheck_spec evs hnf).1, (nfCheck_spec evs hnf).2,
    zeroCheck_spec c evs StB.init hz⟩

/-! The hypotheses can be met: the nested tree of `FlatB.exCfg` and its flattened graph. -/

/-- the flattened graph of `exCfg`: `2` (was `3`) requires `1`, inherited from the nested scheduler; `4` (was `5`)
    requires `3` (was `4`), the exit job of the nested scheduler -/
def flatCfg : Cfg :=
  { n := 5, parent := fun _ => 0, isSched := fun j => j == 0,
    req := fun j => if j = 2 then [1] else if j = 3 then [2] else if j = 4 then [3] else [],
    critical := fun _ => false, forever := fun _ => false, window := fun _ => 0, timeout := fun _ => none,
    sdTimeout := fun _ => none, topPure := true }

def flatEvs : List EvB :=
  [.runBegin, .grant 1, .tick 2, .bodyEnd 1 true, .waitReturn 0, .react 0,
   .grant 2, .tick 3, .bodyEnd 2 true, .waitReturn 0, .react 0,
   .grant 3, .tick 1, .bodyEnd 3 true, .waitReturn 0, .react 0,
   .grant 4, .tick 4, .bodyEnd 4 true, .waitReturn 0, .react 0,
   .tidyReturn 0 0, .hEnd 1, .hEnd 2, .hEnd 3, .hEnd 4, .sdWaitReturn 0 0]

def exRho (j : Nat) : Nat := if j = 1 then 1 else if j = 3 then 2 else if j = 4 then 3 else if j = 5 then 4 else 0

theorem flatCfg_plain : plainCheck flatCfg flatEvs = true := by decide

example : plainCheck exCfg exEvs = true ∧ plainCheck flatCfg flatEvs = true := ⟨exCfg_plain, flatCfg_plain⟩

example : (List.range 6).map (flatReq exCfg exCfg.n) = [[], [], [1], [1], [3], [4]] := by decide

/-- `flatten_same_times` applies to the pair, and says what it should: `1, 3, 4, 5` begin at `0, 2, 5, 6` in both -/
example : ∀ j, 0 < j → j < exCfg.n → exCfg.isSched j = false →
    (timingOf flatCfg flatEvs).B (exRho j) = (timingOf exCfg exEvs).B j ∧
    (timingOf flatCfg flatEvs).E (exRho j) = (timingOf exCfg exEvs).E j := by
  refine flatten_same_times exCfg flatCfg exEvs flatEvs exRho (plainCheck_spec _ _ exCfg_plain)
    (plainCheck_spec _ _ flatCfg_plain) (by decide) ?_ ?_ (by decide)
  · intro j h0 hn; exact ⟨rfl, by simp [flatCfg]; omega⟩
  · have : ∀ j, j < 6 → 0 < j → exCfg.isSched j = false →
        0 < exRho j ∧ exRho j < flatCfg.n ∧ durOf flatCfg flatEvs (exRho j) = durOf exCfg exEvs j ∧
        flatCfg.req (exRho j) = (flatReq exCfg exCfg.n j).map exRho := by
      decide
    intro j h0 hn hat
    obtain ⟨a, b, d, e⟩ := this j hn h0 hat
    exact ⟨a, b, d, mem_req_of_eq_map e⟩

example : (List.range 5).map (timingOf flatCfg flatEvs).B = [0, 0, 2, 5, 6] := by decide

end AJ.Proofs.FlatC
