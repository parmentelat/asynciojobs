/-
  What the static proofs share: facts about `Reach` and the nesting relation `Desc` of `Spec.lean` (and `In`: itself or below), the tree
  hypotheses `TreeAt` under which the recursive functions of `Model/Graph.lean` are specified, and `fuel_ind`, the
  induction for these functions.
-/
import AJ.Spec
namespace AJ

variable {t t' : T} {s a b c j k x : Nat}

theorem Reach.trans (h1 : Reach t s a b) (h2 : Reach t s b c) : Reach t s a c := by
  induction h2 with
  | single e => exact .tail h1 e
  | tail _ e ih => exact .tail ih e

theorem Reach.mono (hE : ∀ x y, Edge t s x y → Reach t' s x y) (h : Reach t s a b) : Reach t' s a b := by
  induction h with
  | single e => exact hE _ _ e
  | tail _ e ih => exact ih.trans (hE _ _ e)

theorem Reach.mem_left (h : Reach t s a b) : a ∈ t.mem s := by
  induction h with
  | single e => exact e.2.1
  | tail _ _ ih => exact ih

/-- the premise `s' = s ∨ Desc t s s'` of the statements -/
def In (t : T) (s a : Nat) : Prop := a = s ∨ Desc t s a

theorem Desc.sched (h : Desc t s x) : t.isSched s = true := by
  cases h <;> assumption

theorem Desc.trans (h1 : Desc t a b) (h2 : Desc t b x) : Desc t a x := by
  induction h1 with
  | child hs hk => exact .deeper hs hk h2
  | deeper hs hk _ ih => exact .deeper hs hk (ih h2)

theorem In.root (t : T) (s : Nat) : In t s s := Or.inl rfl

theorem Desc.of_in (h : In t s a) (hx : Desc t a x) : Desc t s x := by
  rcases h with rfl | h
  · exact hx
  · exact h.trans hx

theorem In.trans (h1 : In t s a) (h2 : In t a x) : In t s x := by
  rcases h2 with rfl | h2
  · exact h1
  · exact Or.inr (.of_in h1 h2)

theorem Desc.of_mem (h : In t s a) (ha : t.isSched a = true) (hk : k ∈ t.mem a) : Desc t s k :=
  .of_in h (.child ha hk)

theorem Desc.of_child (hs : t.isSched s = true) (hj : j ∈ t.mem s) (h : In t j x) : Desc t s x := by
  rcases h with rfl | h
  · exact .child hs hj
  · exact .deeper hs hj h

theorem In.of_child (hs : t.isSched s = true) (hj : j ∈ t.mem s) (h : In t j x) : In t s x :=
  Or.inr (.of_child hs hj h)

theorem Desc.first (h : Desc t s x) : ∃ k ∈ t.mem s, In t k x := by
  cases h with
  | child _ hk => exact ⟨x, hk, .root ..⟩
  | deeper _ hk hd => exact ⟨_, hk, Or.inr hd⟩

theorem In.sched (h : In t s x) (hx : t.isSched x = true) : t.isSched s = true :=
  h.elim (· ▸ hx) Desc.sched

theorem Desc.parent (h : Desc t s x) : ∃ p, In t s p ∧ t.isSched p = true ∧ x ∈ t.mem p := by
  induction h with
  | child hs hk => exact ⟨_, .root .., hs, hk⟩
  | deeper hs hk _ ih =>
    obtain ⟨p, hp, hps, hxp⟩ := ih
    exact ⟨p, .of_child hs hk hp, hps, hxp⟩

/-- fuel `t.n - s` covers the nesting below `s`: the induction for what is true of a function recursing into nested
    schedulers (`checkCyclesNested`, `sanitize`, `iterateJobs`, `listing`, …) only when its fuel suffices; what holds
    for any fuel is proved by induction on the fuel itself -/
theorem fuel_ind (t : T) (Q : Nat → Nat → Prop)
    (step : ∀ fuel s, t.isSched s = true → (∀ j ∈ t.mem s, t.isSched j = true → Q fuel j) → Q (fuel + 1) s) :
    ∀ fuel s, t.isSched s = true → s < t.n → t.n - s ≤ fuel →
      (∀ s', In t s s' → t.isSched s' = true → ∀ k ∈ t.mem s', s' < k ∧ k < t.n) → Q fuel s := by
  intro fuel
  induction fuel with
  | zero => intro s _ hlt hfuel; omega
  | succ fuel ih =>
    intro s hs hlt hfuel hW
    refine step fuel s hs fun j hj hjs => ?_
    have := hW s (.root ..) hs j hj
    exact ih j hjs this.2 (by omega) fun s' h => hW s' (.of_child hs hj h)

namespace Proofs.C16

/-- the tree hypotheses of the theorems about nested schedulers, for the subtree of `s`: members have larger
    ids (so the nesting is well founded) and no job is a member of two schedulers of the subtree.
    `T.wf` gives them for the ids `< n` (`TreeAt.of_wf`). -/
structure TreeAt (t : T) (s : Nat) : Prop where
  lt : ∀ s', (s' = s ∨ Desc t s s') → ∀ k ∈ t.mem s', s' < k ∧ k < t.n
  atomic : ∀ k, t.isSched k = false → t.mem k = []
  unique : ∀ s1 s2 k, (s1 = s ∨ Desc t s s1) → (s2 = s ∨ Desc t s s2) → k ∈ t.mem s1 → k ∈ t.mem s2 → s1 = s2

theorem TreeAt.sub (h : TreeAt t s) (hs : t.isSched s = true) (hj : j ∈ t.mem s) : TreeAt t j where
  lt := fun s' hs' => h.lt s' (In.of_child hs hj hs')
  atomic := h.atomic
  unique := fun s1 s2 k h1 h2 => h.unique s1 s2 k (In.of_child hs hj h1) (In.of_child hs hj h2)

theorem TreeAt.desc_lt (h : TreeAt t s) (hd : Desc t s x) : s < x ∧ x < t.n := by
  induction hd with
  | child hs hk => exact h.lt _ (In.root ..) _ hk
  | deeper hs hk _ ih =>
    have h1 := h.lt _ (In.root ..) _ hk
    have h2 := ih (h.sub hs hk)
    omega

theorem TreeAt.child_unique (h : TreeAt t s) (hs : t.isSched s = true) :
    ∀ x k1 k2, k1 ∈ t.mem s → k2 ∈ t.mem s → In t k1 x → In t k2 x → k1 = k2 := by
  -- a member of `s` is not strictly below another member of `s`: its parent would be `s`, which is above
  have hno : ∀ k1 k2, k1 ∈ t.mem s → k2 ∈ t.mem s → ¬ Desc t k2 k1 := by
    intro k1 k2 h1 h2 hd
    obtain ⟨p, hp, _, hxp⟩ := hd.parent
    have hps := h.unique s p k1 (Or.inl rfl) (In.of_child hs h2 hp) h1 hxp
    subst hps
    have := (h.desc_lt (.of_child hs h2 hp)).1
    omega
  intro x
  induction x using Nat.strongRecOn with
  | ind x ih =>
    intro k1 k2 h1 h2 hx1 hx2
    rcases hx1 with rfl | hx1 <;> rcases hx2 with hx2 | hx2
    · exact hx2
    · exact absurd hx2 (hno _ _ h1 h2)
    · subst hx2; exact absurd hx1 (hno _ _ h2 h1)
    · -- both strictly above `x`: go to the parent of `x`, which is the same on both sides and smaller
      obtain ⟨p1, hp1, _, hxp1⟩ := hx1.parent
      obtain ⟨p2, hp2, _, hxp2⟩ := hx2.parent
      have hp1s : In t s p1 := .of_child hs h1 hp1
      have := h.unique p1 p2 x hp1s (In.of_child hs h2 hp2) hxp1 hxp2
      subst this
      exact ih p1 (h.lt p1 hp1s x hxp1).1 k1 k2 h1 h2 hp1 hp2

/-- lists hanging under distinct members of a scheduler of a tree are disjoint, so their concatenation is
    duplicate-free; what `listing` and `iterateJobs` share -/
theorem TreeAt.nodup_blocks (htree : TreeAt t s) (hs : t.isSched s = true) (B : Nat → List Nat)
    (js : List Nat) (hjs : js.Nodup) (hsub : ∀ k ∈ js, k ∈ t.mem s)
    (hB : ∀ k ∈ js, (B k).Nodup ∧ ∀ x ∈ B k, In t k x) : (js.flatMap B).Nodup := by
  refine List.pairwise_flatMap.2 ⟨fun k hk => (hB k hk).1, (List.Pairwise.and_mem.1 hjs).imp ?_⟩
  rintro k1 k2 ⟨h1, h2, hne⟩ x hx1 y hy1 rfl
  exact hne (htree.child_unique hs x k1 k2 (hsub k1 h1) (hsub k2 h2) ((hB k1 h1).2 x hx1) ((hB k2 h2).2 x hy1))

/-- `T.wf` (decidable; what the harness generates) gives the tree hypotheses, provided the ids `≥ n`, which `wf`
    does not look at, have no members -/
theorem TreeAt.of_wf (h : t.wf = true) (hout : ∀ k, t.n ≤ k → t.mem k = []) (s : Nat) : TreeAt t s := by
  simp only [T.wf, Bool.and_eq_true, List.all_eq_true, List.mem_range, decide_eq_true_eq] at h
  have hmem : ∀ s' k, k ∈ t.mem s' → s' < t.n ∧ s' < k ∧ k < t.n := by
    intro s' k hk
    have hs' : s' < t.n := Nat.lt_of_not_le fun hge => by rw [hout s' hge] at hk; cases hk
    have := h.1 s' hs'
    unfold T.wfAt at this
    split at this
    · simp only [Bool.and_eq_true, List.all_eq_true, decide_eq_true_eq] at this
      exact ⟨hs', this.1 k hk⟩
    · rw [List.isEmpty_iff.1 this] at hk; cases hk
  refine ⟨fun s' _ k hk => (hmem s' k hk).2, fun k hk => ?_, fun s1 s2 k _ _ h1 h2 => ?_⟩
  · by_cases hkn : k < t.n
    · have := h.1 k hkn
      rw [T.wfAt, hk] at this
      exact List.isEmpty_iff.1 this
    · exact hout k (Nat.le_of_not_lt hkn)
  · -- two distinct schedulers holding `k` would make the list of the holders of `k` longer than 1
    apply Classical.byContradiction
    intro hne
    have : [s1, s2].length ≤ ((List.range t.n).filter fun s => k ∈ t.mem s).length := by
      refine List.Nodup.length_le_of_subset (by simpa using hne) fun x hx => ?_
      have hx : x = s1 ∨ x = s2 := by simpa using hx
      rcases hx with rfl | rfl
      · simpa using ⟨(hmem _ k h1).1, h1⟩
      · simpa using ⟨(hmem _ k h2).1, h2⟩
    exact absurd (Nat.le_trans this (h.2 k (hmem s1 k h1).2.2)) (by simp)

end Proofs.C16
end AJ
