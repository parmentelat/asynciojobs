/-
  C20 — DOT export and listing describe the scheduler tree faithfully.

  `_dot_body` is a fold over the topological order with a fuel for the nesting, as `listing` is. `Emits` says what a
  successful run produces, job by job and next to what `listing` lists, without fuel or accumulator; the theorems
  about the items are inductions on it.
-/
import AJ.Proofs.C15
import AJ.Proofs.C20Style
namespace AJ.Proofs.C20
open AJ.Proofs.C15 (got ok_got)

/-- `_middle_entry_job` and `_middle_exit_job` are the same descent, through the middle one of the jobs
    `cands s` of each scheduler `s` met -/
def middleOf (t : T) (cands : Nat → List Nat) : Nat → Nat → Except Err Nat
  | 0, _ => .error .fuel
  | fuel + 1, s =>
    if (t.mem s).isEmpty then .ok s else
    match (cands s)[middleIndex (cands s).length]? with
    | none => .error .valueError
    | some cand => if t.isSched cand then middleOf t cands fuel cand else .ok cand

/-- the exit jobs `_middle_exit_job` chooses among: the forever ones only if there is no other -/
def exitCands (t : T) (s : Nat) : List Nat :=
  if (exitJobs t s true).isEmpty then exitJobs t s false else exitJobs t s true

theorem middleEntry_eq (t : T) : ∀ fuel s, middleEntry t fuel s = middleOf t (entryJobs t) fuel s
  | 0, _ => rfl
  | fuel + 1, s => by
    simp only [middleEntry, middleOf, middleEntry_eq t fuel]
    rfl

theorem middleExit_eq (t : T) : ∀ fuel s, middleExit t fuel s = middleOf t (exitCands t) fuel s
  | 0, _ => rfl
  | fuel + 1, s => by
    simp only [middleExit, middleOf, middleExit_eq t fuel, exitCands]
    rfl

theorem entryJobs_sub (t : T) (s : Nat) : ∀ k ∈ entryJobs t s, k ∈ t.mem s :=
  fun _ hk => (List.mem_filter.1 hk).1

theorem exitCands_sub (t : T) (s : Nat) : ∀ k ∈ exitCands t s, k ∈ t.mem s := by
  intro k hk
  unfold exitCands at hk
  split at hk <;> exact (List.mem_filter.1 hk).1

/-- `e` can stand for `x` at the end of an edge -/
def End (t : T) (x e : Nat) : Prop := In t x e ∧ (t.isSched e = false ∨ t.mem e = [])

theorem End.down {t : T} {x c e : Nat} (hx : t.isSched x = true) (hc : c ∈ t.mem x) (h : End t c e) : End t x e :=
  ⟨.of_child hx hc h.1, h.2⟩

theorem middleOf_end (t : T) (cands : Nat → List Nat) (hc : ∀ s, ∀ k ∈ cands s, k ∈ t.mem s) :
    ∀ (fuel x r : Nat), t.isSched x = true → middleOf t cands fuel x = .ok r → End t x r
  | 0, _, _, _, h => by cases h
  | fuel + 1, x, r, hx, h => by
    unfold middleOf at h
    split at h
    · rename_i he
      cases h
      exact ⟨Or.inl rfl, Or.inr (List.isEmpty_iff.1 he)⟩
    · split at h
      · cases h
      · rename_i cand hcand
        have hm := hc x cand (List.mem_of_getElem? hcand)
        split at h
        · rename_i hs
          exact (middleOf_end t cands hc fuel cand r hs h).down hx hm
        · rename_i hs
          cases h
          exact ⟨Or.inr (Desc.child hx hm), Or.inl (by simpa using hs)⟩

/-- the cluster an edge names (`lhead` / `ltail`) at its end `x` -/
def cl (t : T) (x : Nat) : Option Nat := if t.isSched x then some x else none

/-- the tail of the edges that leave `r` -/
def exitEnd (t : T) (F r : Nat) : Except Err Nat := if t.isSched r then middleExit t F r else .ok r

/-- the head of the edges that reach `j` -/
def entryEnd (t : T) (F j : Nat) : Except Err Nat := if t.isSched j then middleEntry t F j else .ok j

theorem End.of_middle {t : T} {cands : Nat → List Nat} {F x e : Nat} (hc : ∀ s, ∀ k ∈ cands s, k ∈ t.mem s)
    (h : (if t.isSched x then middleOf t cands F x else .ok x) = .ok e) : End t x e := by
  split at h
  · rename_i hx
    exact middleOf_end t _ hc F x e hx h
  · rename_i hx
    cases h
    exact ⟨Or.inl rfl, Or.inl (by simpa using hx)⟩

theorem exitEnd_end {t : T} {F r e : Nat} (h : exitEnd t F r = .ok e) : End t r e :=
  .of_middle (exitCands_sub t) (by rwa [exitEnd, middleExit_eq] at h)

theorem entryEnd_end {t : T} {F j e : Nat} (h : entryEnd t F j = .ok e) : End t j e :=
  .of_middle (entryJobs_sub t) (by rwa [entryEnd, middleEntry_eq] at h)

theorem cl_some {t : T} {x c : Nat} (h : cl t x = some c) : c = x ∧ t.isSched x = true := by
  unfold cl at h
  split at h
  · rename_i hx; cases h; exact ⟨rfl, hx⟩
  · cases h

theorem End.atomic_or_empty {t : T} {x e : Nat} (h : End t x e) :
    t.isSched e = false ∨ (t.isSched e = true ∧ t.mem e = [] ∧ ∃ c, cl t x = some c) := by
  cases he : t.isSched e with
  | false => exact Or.inl rfl
  | true =>
    exact Or.inr ⟨rfl, h.2.resolve_left (by simp [he]), x, by simp [cl, h.1.sched he]⟩

/-- the edge emitted for the requirement `r` of `j` -/
def edgeOf (t : T) (F j r : Nat) : Item := .edge (got (exitEnd t F r)) (got (entryEnd t F j)) (cl t j) (cl t r)

theorem edgesOf_ok_iff {t : T} {F j : Nat} {es : List Item} : edgesOf t F j = .ok es ↔
    es = (t.req j).map (edgeOf t F j) ∧ ∀ r ∈ t.req j,
      exitEnd t F r = .ok (got (exitEnd t F r)) ∧ entryEnd t F j = .ok (got (entryEnd t F j)) := by
  unfold edgesOf
  refine (C15.foldlM_append_ok _ (fun r => [edgeOf t F j r]) _ (fun acc r mid => ?_) (t.req j) [] es).trans
    (by rw [List.nil_append, ← List.map_eq_flatMap])
  unfold edgeOf exitEnd entryEnd cl
  cases t.isSched j <;> cases t.isSched r
  · simp [got, eq_comm]
  · cases middleExit t F r <;> simp [got, eq_comm]
  · cases middleEntry t F j <;> simp [got, eq_comm]
  · cases middleExit t F r
    · simp
    · cases middleEntry t F j <;> simp [got, eq_comm]

/-- the logical endpoints of an edge item -/
def ekey : Item → Option (Nat × Nat)
  | .edge src dst lhead ltail => some (lhead.getD dst, ltail.getD src)
  | _ => none

/-- the logical endpoints (dependant, requirement) of an edge item: the cluster `lhead` / `ltail` names when given,
    the node otherwise. The statements use this one, the proofs `ekey`. -/
def edgeKey : Item → Option (Nat × Nat)
  | .edge src dst lhead ltail => some (lhead.getD dst, ltail.getD src)
  | _ => none

theorem edgeKey_eq : edgeKey = ekey := by
  funext i; cases i <;> rfl

def AllEdges (es : List Item) : Prop := ∀ i ∈ es, ∃ a b c d, i = Item.edge a b c d

theorem edgesOf_allEdges {t : T} {F j : Nat} {es : List Item} (h : edgesOf t F j = .ok es) : AllEdges es := by
  obtain ⟨rfl, _⟩ := edgesOf_ok_iff.1 h
  intro i hi
  obtain ⟨r, _, rfl⟩ := List.mem_map.1 hi
  exact ⟨_, _, _, _, rfl⟩

theorem AllEdges.filterMap_eq_nil {β : Type} {es : List Item} (h : AllEdges es) (f : Item → Option β)
    (hf : ∀ a b c d, f (.edge a b c d) = none) : es.filterMap f = [] := by
  rw [List.filterMap_eq_nil_iff]
  intro i hi
  obtain ⟨a, b, c, d, rfl⟩ := h i hi
  exact hf a b c d

theorem AllEdges.tail {e : Item} {es : List Item} (h : AllEdges (e :: es)) : AllEdges es :=
  fun i hi => h i (List.mem_cons_of_mem _ hi)

theorem edge_ekey (t : T) (F j r : Nat) : ekey (edgeOf t F j r) = some (j, r) := by
  unfold edgeOf cl exitEnd entryEnd
  cases t.isSched j <;> cases t.isSched r <;> rfl

theorem edgesOf_mem {t : T} {F j : Nat} {es : List Item} (hes : edgesOf t F j = .ok es)
    {a b : Nat} {c d : Option Nat} (hm : Item.edge a b c d ∈ es) :
    ∃ r ∈ t.req j, exitEnd t F r = .ok a ∧ entryEnd t F j = .ok b ∧ c = cl t j ∧ d = cl t r := by
  obtain ⟨rfl, hsd⟩ := edgesOf_ok_iff.1 hes
  obtain ⟨r, hr, e⟩ := List.mem_map.1 hm
  cases e
  exact ⟨r, hr, (hsd r hr).1, (hsd r hr).2, rfl, rfl⟩

theorem edgesOf_ekey {t : T} {F j : Nat} {es : List Item} (hes : edgesOf t F j = .ok es) :
    es.filterMap ekey = (t.req j).map fun r => (j, r) := by
  obtain ⟨rfl, _⟩ := edgesOf_ok_iff.1 hes
  rw [List.filterMap_map, ← List.filterMap_eq_map']
  exact congrArg (List.filterMap · _) (funext (edge_ekey t F j))

def nodeOf : Item → Option Nat
  | .node j => some j
  | _ => none

def clusterOf : Item → Option Nat
  | .openCluster j => some j
  | _ => none

def holderId : Item → Option Nat
  | .holder j => some j
  | _ => none

@[simp] theorem nodeOf_holder (j : Nat) : nodeOf (.holder j) = none := rfl
@[simp] theorem clusterOf_holder (j : Nat) : clusterOf (.holder j) = none := rfl
@[simp] theorem ekey_holder (j : Nat) : ekey (.holder j) = none := rfl
@[simp] theorem holderId_node (j : Nat) : holderId (.node j) = none := rfl
@[simp] theorem holderId_open (j : Nat) : holderId (.openCluster j) = none := rfl
@[simp] theorem holderId_close : holderId .close = none := rfl
@[simp] theorem holderId_edge (a b : Nat) (c d : Option Nat) : holderId (.edge a b c d) = none := rfl
@[simp] theorem holderId_holder (j : Nat) : holderId (.holder j) = some j := rfl
@[simp] theorem nodeOf_node (j : Nat) : nodeOf (.node j) = some j := rfl
@[simp] theorem nodeOf_open (j : Nat) : nodeOf (.openCluster j) = none := rfl
@[simp] theorem nodeOf_close : nodeOf .close = none := rfl
@[simp] theorem nodeOf_edge (a b : Nat) (c d : Option Nat) : nodeOf (.edge a b c d) = none := rfl
@[simp] theorem clusterOf_node (j : Nat) : clusterOf (.node j) = none := rfl
@[simp] theorem clusterOf_open (j : Nat) : clusterOf (.openCluster j) = some j := rfl
@[simp] theorem clusterOf_close : clusterOf .close = none := rfl
@[simp] theorem clusterOf_edge (a b : Nat) (c d : Option Nat) : clusterOf (.edge a b c d) = none := rfl
@[simp] theorem ekey_node (j : Nat) : ekey (.node j) = none := rfl
@[simp] theorem ekey_open (j : Nat) : ekey (.openCluster j) = none := rfl
@[simp] theorem ekey_close : ekey .close = none := rfl

theorem nodeOf_eq : (fun i : Item => match i with | .node j => some j | _ => none) = nodeOf := by
  funext i; cases i <;> rfl

theorem clusterOf_eq : (fun i : Item => match i with | .openCluster j => some j | _ => none) = clusterOf := by
  funext i; cases i <;> rfl

theorem holderId_eq : (fun i : Item => match i with | .holder j => some j | _ => none) = holderId := by
  funext i; cases i <;> rfl

theorem mem_filterMap_holderId {items : List Item} {x : Nat} :
    x ∈ items.filterMap holderId ↔ Item.holder x ∈ items := by
  rw [List.mem_filterMap]
  constructor
  · rintro ⟨i, hi, e⟩; cases i <;> cases e; exact hi
  · exact fun h => ⟨_, h, rfl⟩

theorem mem_filterMap_clusterOf {items : List Item} {x : Nat} :
    x ∈ items.filterMap clusterOf ↔ Item.openCluster x ∈ items := by
  rw [List.mem_filterMap]
  constructor
  · rintro ⟨i, hi, e⟩; cases i <;> cases e; exact hi
  · exact fun h => ⟨_, h, rfl⟩

theorem holderOf_filterMap {β : Type} (t : T) (anch : List Nat) (j : Nat) (f : Item → Option β)
    (hf : f (.holder j) = none) : (holderOf t anch j).filterMap f = [] := by
  unfold holderOf; split <;> simp [hf]

theorem holderOf_pos {t : T} {anch : List Nat} {j : Nat} (h : ((t.mem j).isEmpty && anch.contains j) = true) :
    holderOf t anch j = [Item.holder j] := by
  unfold holderOf; rw [if_pos h]

theorem holderOf_neg {t : T} {anch : List Nat} {j : Nat} (h : ¬ ((t.mem j).isEmpty && anch.contains j) = true) :
    holderOf t anch j = [] := by
  unfold holderOf; rw [if_neg h]

theorem holderOf_holderId (t : T) (anch : List Nat) (j : Nat) :
    (holderOf t anch j).filterMap holderId = if (t.mem j).isEmpty && anch.contains j then [j] else [] := by
  unfold holderOf; split <;> simp

theorem mem_holderOf (t : T) (anch : List Nat) (j : Nat) (i : Item) :
    i ∈ holderOf t anch j ↔ i = Item.holder j ∧ t.mem j = [] ∧ j ∈ anch := by
  unfold holderOf
  split
  · rename_i h
    simp only [Bool.and_eq_true, List.isEmpty_iff, List.contains_eq_mem, decide_eq_true_eq] at h
    simp [h]
  · rename_i h
    simp only [Bool.and_eq_true, List.isEmpty_iff, List.contains_eq_mem, decide_eq_true_eq] at h
    simp only [List.not_mem_nil, false_iff]
    intro hh; exact h hh.2

/-! ### `_dot_body` as a relation -/

/-- a successful run of `_dot_body` over the jobs `l` of one scheduler, in order, emits `items`; `ls` is what
    `listing` lists for them (the fuel forgotten) -/
inductive Emits (t : T) (anch : List Nat) (F : Nat) : List Nat → List Nat → List Item → Prop
  | nil : Emits t anch F [] [] []
  | node {j l ls es r} : t.isSched j = false → edgesOf t F j = .ok es → Emits t anch F l ls r →
      Emits t anch F (j :: l) (j :: ls) (Item.node j :: es ++ r)
  | cluster {j l ls lj lsj sub es r} : t.isSched j = true → topo t j = .ok lj → Emits t anch F lj lsj sub →
      edgesOf t F j = .ok es → Emits t anch F l ls r →
      Emits t anch F (j :: l) (j :: lsj ++ ls)
        (Item.openCluster j :: holderOf t anch j ++ sub ++ Item.close :: es ++ r)

/-- one step of the fold of `_dot_body` -/
def dotStep (t : T) (anch : List Nat) (F fuel : Nat) (acc : List Item) (j : Nat) : Except Err (List Item) :=
  if t.isSched j then
    match dotBodyWith t anch F fuel j with
    | .error e => .error e
    | .ok sub =>
      match edgesOf t F j with
      | .error e => .error e
      | .ok es => .ok (acc ++ Item.openCluster j :: holderOf t anch j ++ sub ++ Item.close :: es)
  else
    match edgesOf t F j with
    | .error e => .error e
    | .ok es => .ok (acc ++ Item.node j :: es)

theorem dotBodyWith_succ (t : T) (anch : List Nat) (F fuel s : Nat) :
    dotBodyWith t anch F (fuel + 1) s =
      match topo t s with
      | .error e => .error e
      | .ok l => l.foldlM (dotStep t anch F fuel) [] := rfl

/-- what `_dot_body` emits for the job `j` of the scheduler it runs on -/
def blockOf (t : T) (anch : List Nat) (F fuel j : Nat) : List Item :=
  if t.isSched j then
    Item.openCluster j :: holderOf t anch j ++ got (dotBodyWith t anch F fuel j) ++ Item.close :: got (edgesOf t F j)
  else Item.node j :: got (edgesOf t F j)

theorem dotStep_ok_iff (t : T) (anch : List Nat) (F fuel : Nat) (acc : List Item) (j : Nat) (mid : List Item) :
    dotStep t anch F fuel acc j = .ok mid ↔ (mid = acc ++ blockOf t anch F fuel j ∧
      (edgesOf t F j = .ok (got (edgesOf t F j)) ∧
        (t.isSched j = true → dotBodyWith t anch F fuel j = .ok (got (dotBodyWith t anch F fuel j))))) := by
  unfold dotStep blockOf
  cases t.isSched j
  · cases edgesOf t F j <;> simp [got, eq_comm]
  · cases dotBodyWith t anch F fuel j
    · simp
    · cases edgesOf t F j <;> simp [got, eq_comm]

theorem dotBodyWith_ok_iff (t : T) (anch : List Nat) (F fuel s : Nat) (items : List Item) :
    dotBodyWith t anch F (fuel + 1) s = .ok items ↔ ∃ l, topo t s = .ok l ∧
      items = l.flatMap (blockOf t anch F fuel) ∧ ∀ k ∈ l, edgesOf t F k = .ok (got (edgesOf t F k)) ∧
        (t.isSched k = true → dotBodyWith t anch F fuel k = .ok (got (dotBodyWith t anch F fuel k))) := by
  rw [dotBodyWith_succ]
  cases topo t s with
  | error e => simp
  | ok l => simpa using C15.foldlM_append_ok _ _ _ (dotStep_ok_iff t anch F fuel) l [] items

theorem dotBodyWith_emits (t : T) (anch : List Nat) (F : Nat) : ∀ (fuel s : Nat) (items : List Item),
    dotBodyWith t anch F fuel s = .ok items →
      ∃ l ls, topo t s = .ok l ∧ listing t fuel s = .ok ls ∧ Emits t anch F l ls items := by
  intro fuel
  induction fuel with
  | zero => intro s items h; cases h
  | succ n ih =>
    intro s items h
    obtain ⟨l, hl, rfl, hG⟩ := (dotBodyWith_ok_iff t anch F n s items).1 h
    -- the nested runs, by induction; their listings are those `listing` inserts
    have hsub : ∀ k ∈ l, t.isSched k = true → ∃ lk, topo t k = .ok lk ∧
        listing t n k = .ok (C15.subOf t n k) ∧ Emits t anch F lk (C15.subOf t n k) (got (dotBodyWith t anch F n k)) := by
      intro k hk hks
      obtain ⟨lk, lsk, h1, h2, h3⟩ := ih k _ ((hG k hk).2 hks)
      have : C15.subOf t n k = lsk := C15.subOf_ok hks h2
      exact ⟨lk, h1, this ▸ h2, this ▸ h3⟩
    refine ⟨l, _, hl, (C15.listing_ok_iff t n s _).2 ⟨l, hl, rfl, fun k hk hks => (hsub k hk hks).elim fun _ h => h.2.1⟩, ?_⟩
    clear hl h
    induction l with
    | nil => exact .nil
    | cons j l ihl =>
      have hr := ihl (fun k hk => hG k (List.mem_cons_of_mem _ hk)) (fun k hk => hsub k (List.mem_cons_of_mem _ hk))
      have hes := (hG j List.mem_cons_self).1
      rw [List.flatMap_cons, List.flatMap_cons, blockOf]
      cases hj : t.isSched j with
      | false => simpa [C15.subOf_atomic hj] using Emits.node hj hes hr
      | true =>
        obtain ⟨lj, hlj, _, hs⟩ := hsub j List.mem_cons_self hj
        simpa using Emits.cluster hj hlj hs hes hr

theorem emits_nodes {t : T} {anch : List Nat} {F : Nat} {l ls : List Nat} {items : List Item}
    (h : Emits t anch F l ls items) :
    items.filterMap nodeOf = ls.filter (fun j => !t.isSched j) ∧
    items.filterMap clusterOf = ls.filter (fun j => t.isSched j) := by
  induction h with
  | nil => exact ⟨rfl, rfl⟩
  | node hj hes _ ih =>
    have hn := (edgesOf_allEdges hes).filterMap_eq_nil nodeOf (fun _ _ _ _ => rfl)
    have hc := (edgesOf_allEdges hes).filterMap_eq_nil clusterOf (fun _ _ _ _ => rfl)
    simp [List.filterMap_cons, hn, hc, ih.1, ih.2, hj]
  | cluster hj _ _ hes _ ihs ih =>
    have hn := (edgesOf_allEdges hes).filterMap_eq_nil nodeOf (fun _ _ _ _ => rfl)
    have hc := (edgesOf_allEdges hes).filterMap_eq_nil clusterOf (fun _ _ _ _ => rfl)
    simp [List.filterMap_cons, holderOf_filterMap _ _ _ nodeOf rfl, holderOf_filterMap _ _ _ clusterOf rfl, hn, hc,
      ih.1, ih.2, ihs.1, ihs.2, hj]

theorem emits_holders {t : T} {anch : List Nat} {F : Nat} {l ls : List Nat} {items : List Item}
    (h : Emits t anch F l ls items) :
    items.filterMap holderId = ls.filter (fun j => t.isSched j && ((t.mem j).isEmpty && anch.contains j)) := by
  induction h with
  | nil => rfl
  | node hj hes _ ih =>
    simp [List.filterMap_cons, (edgesOf_allEdges hes).filterMap_eq_nil holderId (fun _ _ _ _ => rfl), ih, hj]
  | @cluster j _ _ _ _ _ _ _ hj _ _ hes _ ihs ih =>
    simp only [List.filterMap_append, List.filterMap_cons, List.filter_append,
      (edgesOf_allEdges hes).filterMap_eq_nil holderId (fun _ _ _ _ => rfl), ih, ihs,
      holderOf_holderId, holderId_open, holderId_close, List.append_nil, List.filter_cons, hj, Bool.true_and]
    split <;> simp

/-- every `holder` item sits right after the `openCluster` of the same scheduler and right before its `close` -/
def Placed (items : List Item) : Prop :=
  ∀ pre s post, items = pre ++ Item.holder s :: post →
    (∃ pre', pre = pre' ++ [Item.openCluster s]) ∧ ∃ post', post = Item.close :: post'

theorem placed_of_no_holder {items : List Item} (h : ∀ s, Item.holder s ∉ items) : Placed items := by
  intro pre s post e
  exact absurd (by rw [e]; simp) (h s)

theorem placed_append {a b : List Item} (ha : Placed a) (hb : Placed b) : Placed (a ++ b) := by
  intro pre s post e
  rcases List.append_eq_append_iff.1 e with ⟨a', rfl, hb'⟩ | ⟨c', rfl, hc⟩
  · obtain ⟨⟨p, hp⟩, q⟩ := hb a' s post hb'
    exact ⟨⟨a ++ p, by rw [hp]; simp⟩, q⟩
  · cases c' with
    | nil =>
      simp only [List.nil_append] at hc
      obtain ⟨⟨p, hp⟩, _⟩ := hb [] s post hc.symm
      simp at hp
    | cons x c'' =>
      simp only [List.cons_append, List.cons.injEq] at hc
      obtain ⟨rfl, rfl⟩ := hc
      obtain ⟨p, q, hq⟩ := ha pre s c'' rfl
      exact ⟨p, q ++ b, by rw [hq]; simp⟩

theorem placed_empty_cluster (j : Nat) : Placed [Item.openCluster j, Item.holder j, Item.close] := by
  intro pre s post e
  obtain ⟨rfl, e1⟩ | ⟨_, rfl, e1⟩ := List.cons_eq_append_iff.1 e
  · cases e1
  · obtain ⟨rfl, e2⟩ | ⟨_, rfl, e2⟩ := List.cons_eq_append_iff.1 e1
    · cases e2; exact ⟨⟨[], rfl⟩, ⟨[], rfl⟩⟩
    · obtain ⟨rfl, e3⟩ | ⟨p, rfl, e3⟩ := List.cons_eq_append_iff.1 e2
      · cases e3
      · cases p <;> cases e3

theorem AllEdges.placed {es : List Item} (h : AllEdges es) : Placed es :=
  placed_of_no_holder fun _ hm => by obtain ⟨_, _, _, _, e⟩ := h _ hm; cases e

theorem emits_placed {t : T} {anch : List Nat} {F : Nat} {l ls : List Nat} {items : List Item}
    (h : Emits t anch F l ls items) : Placed items := by
  induction h with
  | nil => exact placed_of_no_holder (by simp)
  | @node j _ _ _ _ _ hes _ ih =>
    have h1 : Placed [Item.node j] := placed_of_no_holder (by simp)
    simpa using placed_append h1 (placed_append (edgesOf_allEdges hes).placed ih)
  | @cluster j _ _ lj _ sub _ _ _ hlj hsub hes _ ihs ih =>
    have hr := placed_append (edgesOf_allEdges hes).placed ih
    by_cases he : ((t.mem j).isEmpty && anch.contains j) = true
    · cases C15.topo_nil hlj (by simp at he; simp [he.1])
      cases hsub
      rw [holderOf_pos he]
      simpa using placed_append (placed_empty_cluster j) hr
    · have h1 : Placed ([Item.openCluster j] ++ (sub ++ [Item.close])) :=
        placed_append (placed_of_no_holder (by simp)) (placed_append ihs (placed_of_no_holder (by simp)))
      rw [holderOf_neg he]
      simpa using placed_append h1 hr

/-- clusters are well bracketed: every prefix has at least as many `openCluster` as `close`, the whole list as many -/
def depthOk : Nat → List Item → Bool
  | d, [] => d == 0
  | d, .openCluster _ :: r => depthOk (d + 1) r
  | 0, .close :: _ => false
  | d + 1, .close :: r => depthOk d r
  | d, _ :: r => depthOk d r

/-- a block that leaves the nesting depth unchanged and never closes more than it opened -/
def Bal (items : List Item) : Prop := ∀ d rest, depthOk d (items ++ rest) = depthOk d rest

theorem depthOk_cons_plain (i : Item) (ho : ∀ s, i ≠ .openCluster s) (hc : i ≠ .close) (d : Nat) (r : List Item) :
    depthOk d (i :: r) = depthOk d r := by
  cases i with
  | openCluster s => exact absurd rfl (ho s)
  | close => exact absurd rfl hc
  | _ => cases d <;> rfl

theorem bal_nil : Bal [] := by intro d rest; rfl

theorem bal_append {a b : List Item} (ha : Bal a) (hb : Bal b) : Bal (a ++ b) := by
  intro d rest
  rw [List.append_assoc, ha, hb]

theorem bal_node (j : Nat) : Bal [Item.node j] :=
  fun d rest => depthOk_cons_plain (.node j) nofun nofun d rest

theorem bal_holderOf (t : T) (anch : List Nat) (j : Nat) : Bal (holderOf t anch j) := by
  unfold holderOf
  split
  · exact fun d rest => depthOk_cons_plain (.holder j) nofun nofun d rest
  · exact bal_nil

theorem bal_cluster (j : Nat) (sub : List Item) (h : Bal sub) : Bal (Item.openCluster j :: sub ++ [Item.close]) := by
  intro d rest
  have := h (d + 1) (Item.close :: rest)
  simp [depthOk] at this ⊢
  rw [this]

theorem AllEdges.bal : ∀ {es : List Item}, AllEdges es → Bal es
  | [], _ => bal_nil
  | e :: es, h => by
    obtain ⟨a, b, c, d, rfl⟩ := h e (by simp)
    exact fun dp rest => (depthOk_cons_plain (.edge a b c d) nofun nofun dp _).trans (h.tail.bal dp rest)

theorem emits_bal {t : T} {anch : List Nat} {F : Nat} {l ls : List Nat} {items : List Item}
    (h : Emits t anch F l ls items) : Bal items := by
  induction h with
  | nil => exact bal_nil
  | @node j _ _ _ _ _ hes _ ih =>
    simpa using bal_append (bal_node j) (bal_append (edgesOf_allEdges hes).bal ih)
  | @cluster j _ _ _ _ _ _ _ _ _ _ hes _ ihs ih =>
    simpa using bal_append (bal_cluster j _ (bal_append (bal_holderOf t anch j) ihs))
      (bal_append (edgesOf_allEdges hes).bal ih)

theorem emits_edges {t : T} {anch : List Nat} {F : Nat} {l ls : List Nat} {items : List Item}
    (h : Emits t anch F l ls items) :
    (items.filterMap ekey).Perm (ls.flatMap fun x => (t.req x).map fun r => (x, r)) := by
  induction h with
  | nil => exact .nil
  | node _ hes _ ih =>
    simp only [List.filterMap_append, List.filterMap_cons, ekey_node, edgesOf_ekey hes, List.flatMap_cons]
    exact ih.append_left _
  | cluster _ _ _ hes _ ihs ih =>
    simp only [List.filterMap_append, List.filterMap_cons, ekey_open, ekey_close, holderOf_filterMap _ _ _ ekey rfl,
      List.nil_append, edgesOf_ekey hes, List.flatMap_cons, List.flatMap_append, List.append_assoc]
    exact (List.perm_append_comm_assoc _ _ _).trans ((ihs.append ih).append_left _)

/-! ### which empty schedulers get their invisible node: the anchored ones -/

@[simp] theorem anchorsOf_nil (t : T) : anchorsOf t [] = [] := rfl
@[simp] theorem anchorsOf_append (t : T) (a b : List Item) : anchorsOf t (a ++ b) = anchorsOf t a ++ anchorsOf t b := by
  simp [anchorsOf]
@[simp] theorem anchorsOf_cons_node (t : T) (j : Nat) (r : List Item) : anchorsOf t (.node j :: r) = anchorsOf t r := by
  simp [anchorsOf]
@[simp] theorem anchorsOf_cons_open (t : T) (j : Nat) (r : List Item) :
    anchorsOf t (.openCluster j :: r) = anchorsOf t r := by
  simp [anchorsOf]
@[simp] theorem anchorsOf_cons_close (t : T) (r : List Item) : anchorsOf t (.close :: r) = anchorsOf t r := by
  simp [anchorsOf]
@[simp] theorem anchorsOf_cons_holder (t : T) (j : Nat) (r : List Item) :
    anchorsOf t (.holder j :: r) = anchorsOf t r := by
  simp [anchorsOf]
@[simp] theorem anchorsOf_holderOf (t : T) (anch : List Nat) (j : Nat) : anchorsOf t (holderOf t anch j) = [] := by
  unfold holderOf; split <;> simp

theorem mem_anchorsOf (t : T) (items : List Item) (x : Nat) :
    x ∈ anchorsOf t items ↔
      (t.isSched x = true ∧ t.mem x = []) ∧
        ∃ src dst lh lt, Item.edge src dst lh lt ∈ items ∧ (src = x ∨ dst = x) := by
  unfold anchorsOf
  rw [List.mem_flatMap]
  constructor
  · rintro ⟨i, hi, hx⟩
    cases i with
    | edge src dst lh lt =>
      simp only [List.mem_filter, List.mem_cons, List.not_mem_nil, or_false, Bool.and_eq_true,
        List.isEmpty_iff] at hx
      exact ⟨hx.2, src, dst, lh, lt, hi, by rcases hx.1 with h | h <;> simp [h]⟩
    | _ => simp at hx
  · rintro ⟨hx, src, dst, lh, lt, hi, hsd⟩
    refine ⟨_, hi, ?_⟩
    simp only [List.mem_filter, List.mem_cons, List.not_mem_nil, or_false, Bool.and_eq_true, List.isEmpty_iff]
    exact ⟨by rcases hsd with h | h <;> simp [h], hx⟩

/-- the edges, hence the anchors, of a run of `_dot_body` do not depend on the `_dot_anchor` flags -/
theorem emits_anchors {t : T} {a1 a2 : List Nat} {F : Nat} {l ls1 : List Nat} {i1 : List Item}
    (h : Emits t a1 F l ls1 i1) : ∀ ls2 i2, Emits t a2 F l ls2 i2 → anchorsOf t i1 = anchorsOf t i2 := by
  induction h with
  | nil => intro _ _ h2; cases h2; rfl
  | node hj hes _ ih =>
    intro _ _ h2
    cases h2 with
    | node _ hes' hr => cases hes.symm.trans hes'; simp [ih _ _ hr]
    | cluster hj' => rw [hj] at hj'; cases hj'
  | cluster hj hlj _ hes _ ihs ih =>
    intro _ _ h2
    cases h2 with
    | node hj' => rw [hj] at hj'; cases hj'
    | cluster _ hlj' hsub' hes' hr =>
      cases hes.symm.trans hes'
      cases hlj.symm.trans hlj'
      simp [ih _ _ hr, ihs _ _ hsub']

/-- `x` is one of the jobs `L` or lies below one -/
def Under (t : T) (L : List Nat) (x : Nat) : Prop := ∃ k ∈ L, In t k x

theorem Under.of_sub {t : T} {j x : Nat} {lj L : List Nat} (hj : t.isSched j = true) (hlj : ∀ k ∈ lj, k ∈ t.mem j)
    (hL : j ∈ L) : Under t lj x → Under t L x :=
  fun ⟨k, hk, hkx⟩ => ⟨j, hL, .of_child hj (hlj k hk) hkx⟩

/-- `L`: the whole topological order of the scheduler of which `l` is a suffix; a requirement of a job of `l` may stand
    before `l`, so `l` itself is not closed under `req` -/
theorem emits_origin {t : T} {anch : List Nat} {F : Nat} {l ls : List Nat} {items : List Item}
    (h : Emits t anch F l ls items) : ∀ (L : List Nat), (∀ j ∈ l, j ∈ L ∧ ∀ r ∈ t.req j, r ∈ L) →
      ∀ a b c d, Item.edge a b c d ∈ items → ∃ j r, Under t L j ∧ Under t L r ∧ r ∈ t.req j ∧
        exitEnd t F r = .ok a ∧ entryEnd t F j = .ok b ∧ c = cl t j ∧ d = cl t r := by
  induction h with
  | nil => intro _ _ _ _ _ _ hm; cases hm
  | @node j _ _ _ _ _ hes _ ih =>
    intro L hl a b c d hm
    simp only [List.mem_append, List.mem_cons, reduceCtorEq, false_or] at hm
    rcases hm with hm | hm
    · obtain ⟨r, hr, h⟩ := edgesOf_mem hes hm
      have hj := hl j (by simp)
      exact ⟨j, r, ⟨j, hj.1, .root ..⟩, ⟨r, hj.2 r hr, .root ..⟩, hr, h⟩
    · exact ih L (fun k hk => hl k (by simp [hk])) a b c d hm
  | @cluster j _ _ lj _ _ _ _ hj hlj _ hes _ ihs ih =>
    intro L hl a b c d hm
    simp only [List.mem_append, List.mem_cons, reduceCtorEq, false_or, mem_holderOf, false_and] at hm
    rcases hm with (hm | hm) | hm
    · have hsub := C15.topo_subset hlj
      obtain ⟨j', r', h1, h2, h3⟩ := ihs lj (fun k hk => ⟨hk, fun r hr => C15.topo_req_mem hlj hk hr⟩) a b c d hm
      exact ⟨j', r', h1.of_sub hj hsub (hl j (by simp)).1, h2.of_sub hj hsub (hl j (by simp)).1, h3⟩
    · obtain ⟨r, hr, h⟩ := edgesOf_mem hes hm
      have hj := hl j (by simp)
      exact ⟨j, r, ⟨j, hj.1, .root ..⟩, ⟨r, hj.2 r hr, .root ..⟩, hr, h⟩
    · exact ih L (fun k hk => hl k (by simp [hk])) a b c d hm

/-- the item that declares `x`: its node, or its cluster -/
def jobItem (t : T) (x : Nat) : Item := if t.isSched x then .openCluster x else .node x

theorem emits_under {t : T} {anch : List Nat} {F : Nat} {l ls : List Nat} {items : List Item}
    (h : Emits t anch F l ls items) : ∀ x, Under t l x → jobItem t x ∈ items := by
  induction h with
  | nil => rintro x ⟨k, hk, _⟩; cases hk
  | node hj _ _ ih =>
    rintro x ⟨k, hk, hkx⟩
    rcases List.mem_cons.1 hk with rfl | hk
    · rcases hkx with rfl | hd
      · simp [jobItem, hj]
      · rw [hd.sched] at hj; cases hj
    · simp [ih x ⟨k, hk, hkx⟩]
  | cluster hj hlj _ _ _ ihs ih =>
    rintro x ⟨k, hk, hkx⟩
    rcases List.mem_cons.1 hk with rfl | hk
    · rcases hkx with rfl | hd
      · simp [jobItem, hj]
      · obtain ⟨k', hk', hkx'⟩ := hd.first
        simp [ihs x ⟨k', (C15.mem_topo hlj).2 hk', hkx'⟩]
    · simp [ih x ⟨k, hk, hkx⟩]

/-! `dot_format()` does not raise where `list()` does not: since an empty scheduler stands for itself,
  `_middle_entry_job` / `_middle_exit_job` cannot fail on a scheduler whose topological order exists: a non-empty
  one has a first job (an entry) and a last job (an exit). -/

theorem middleIndex_lt {n : Nat} (h : 0 < n) : middleIndex n < n := by
  unfold middleIndex; omega

theorem middleOf_total (t : T) (cands : Nat → List Nat) (hc : ∀ s, ∀ k ∈ cands s, k ∈ t.mem s) (F x : Nat)
    (hx : t.isSched x = true) (hlt : x < t.n) (hF : t.n - x ≤ F)
    (hwf : ∀ s', In t x s' → t.isSched s' = true → ∀ k ∈ t.mem s', s' < k ∧ k < t.n)
    (hne : ∀ s', In t x s' → t.isSched s' = true → t.mem s' ≠ [] → cands s' ≠ []) :
    ∃ r, middleOf t cands F x = .ok r := by
  refine fuel_ind t (fun F x => (∀ s', In t x s' → t.isSched s' = true → t.mem s' ≠ [] → cands s' ≠ []) →
    ∃ r, middleOf t cands F x = .ok r) (fun F x hx ih hne => ?_) F x hx hlt hF hwf hne
  unfold middleOf
  by_cases he : (t.mem x).isEmpty = true
  · exact ⟨x, by simp [he]⟩
  · have hlt' := middleIndex_lt (List.length_pos_iff.2 (hne x (.root ..) hx fun e => he (by simp [e])))
    have hcand := List.getElem?_eq_getElem hlt'
    generalize (cands x)[middleIndex (cands x).length] = cand at hcand
    have hcm : cand ∈ t.mem x := hc x cand (List.mem_of_getElem? hcand)
    simp only [he, hcand]
    cases hcs : t.isSched cand with
    | false => exact ⟨cand, by simp⟩
    | true =>
      obtain ⟨r, hr⟩ := ih cand hcm hcs fun s' hs' => hne s' (.of_child hx hcm hs')
      exact ⟨r, by simpa using hr⟩

theorem exitCands_ne (t : T) (s : Nat) (l : List Nat) (h : topo t s = .ok l) (hne : t.mem s ≠ []) :
    exitCands t s ≠ [] := by
  unfold exitCands
  split
  · exact C15.exit_exists t s l h hne
  · rename_i h2; intro e; exact h2 (by simp [e])

/-- where every scheduler of the subtree has a topological order, a requirement is a member of the same scheduler,
    and the two descents succeed -/
theorem edges_total {t : T} {F s : Nat}
    (hwf : ∀ s', In t s s' → t.isSched s' = true → ∀ k ∈ t.mem s', s' < k ∧ k < t.n) (hF : t.n ≤ F)
    (htopo : ∀ s', In t s s' → t.isSched s' = true → ∃ l, topo t s' = .ok l) :
    ∀ j, Desc t s j → ∃ es, edgesOf t F j = .ok es := by
  have hends : ∀ x, Desc t s x → (∃ e, exitEnd t F x = .ok e) ∧ ∃ e, entryEnd t F x = .ok e := by
    intro x hx
    unfold exitEnd entryEnd
    cases hxs : t.isSched x with
    | false => exact ⟨⟨x, rfl⟩, ⟨x, rfl⟩⟩
    | true =>
      obtain ⟨p, hp, hps, hxp⟩ := hx.parent
      have hlt := (hwf p hp hps x hxp).2
      have hin : ∀ s', In t x s' → In t s s' := fun s' => In.trans (Or.inr hx)
      have hmid : ∀ cands : Nat → List Nat, (∀ s, ∀ k ∈ cands s, k ∈ t.mem s) →
          (∀ s l, topo t s = .ok l → t.mem s ≠ [] → cands s ≠ []) → ∃ e, middleOf t cands F x = .ok e :=
        fun cands hc hne => middleOf_total t cands hc F x hxs hlt (by omega) (fun s' hs' => hwf s' (hin s' hs'))
          fun s' hs' hss' => (htopo s' (hin s' hs') hss').elim (hne s')
      rw [if_pos rfl, if_pos rfl, middleExit_eq, middleEntry_eq]
      exact ⟨hmid _ (exitCands_sub t) (exitCands_ne t), hmid _ (entryJobs_sub t) (C15.entry_exists t)⟩
  intro j hj
  obtain ⟨p, hp, hps, hjp⟩ := hj.parent
  obtain ⟨lp, hlp⟩ := htopo p hp hps
  refine ⟨_, edgesOf_ok_iff.2 ⟨rfl, fun r hr => ?_⟩⟩
  have hrd : Desc t s r := .of_mem hp hps ((C15.mem_topo hlp).1 (C15.topo_req_mem hlp ((C15.mem_topo hlp).2 hjp) hr))
  exact ⟨(hends r hrd).1.elim fun _ => ok_got, (hends j hj).2.elim fun _ => ok_got⟩

theorem dotBodyWith_total (t : T) (anch : List Nat) (F : Nat) : ∀ (fuel s : Nat) (l : List Nat),
    t.isSched s = true → (∀ j, Desc t s j → ∃ es, edgesOf t F j = .ok es) → listing t fuel s = .ok l →
    ∃ items, dotBodyWith t anch F fuel s = .ok items := by
  intro fuel
  induction fuel with
  | zero => intro s l _ _ hl; cases hl
  | succ n ih =>
    intro s l hs hE hl
    obtain ⟨lt, ht, -, hsub⟩ := (C15.listing_ok_iff t n s l).1 hl
    refine ⟨_, (dotBodyWith_ok_iff t anch F n s _).2 ⟨lt, ht, rfl, fun k hk => ?_⟩⟩
    have hkm := (C15.mem_topo ht).1 hk
    refine ⟨(hE k (.child hs hkm)).elim fun _ => ok_got, fun hks => ?_⟩
    exact (ih k _ hks (fun j hj => hE j (.deeper hs hkm hj)) (hsub k hk hks)).elim fun _ => ok_got

/-! ### the theorems about `dot_format()`'s items (`dotBody` = the second run of `_dot_body`) -/

/-- `dot_format()`'s items are those of one run of `_dot_body` whose `_dot_anchor` flags are the anchors of the
    result itself -/
theorem dotBody_emits {t : T} {F fuel s : Nat} {items : List Item} (h : dotBody t F fuel s = .ok items) :
    ∃ l ls, topo t s = .ok l ∧ listing t fuel s = .ok ls ∧ Emits t (anchorsOf t items) F l ls items := by
  unfold dotBody at h
  split at h
  · cases h
  · rename_i i0 h0
    obtain ⟨l0, _, hl0, _, he0⟩ := dotBodyWith_emits t _ F fuel s i0 h0
    obtain ⟨l, ls, hl, hls, he⟩ := dotBodyWith_emits t _ F fuel s items h
    cases hl0.symm.trans hl
    exact ⟨l0, ls, hl0, hls, emits_anchors he0 _ _ he ▸ he⟩

/-- the node items are, in order, the atomic jobs of `listing`; the cluster items the nested schedulers -/
theorem dotBody_nodes (t : T) (F fuel s : Nat) (items : List Item) (l : List Nat)
    (h : dotBody t F fuel s = .ok items) (hl : listing t fuel s = .ok l) :
    items.filterMap (fun i => match i with | .node j => some j | _ => none) = l.filter (fun j => !t.isSched j) ∧
    items.filterMap (fun i => match i with | .openCluster j => some j | _ => none) = l.filter (fun j => t.isSched j) := by
  obtain ⟨_, _, _, hls, he⟩ := dotBody_emits h
  cases hls.symm.trans hl
  rw [nodeOf_eq, clusterOf_eq]
  exact emits_nodes he

/-- the invisible nodes are, in listing order, the nested schedulers without jobs that are anchored, i.e. (see
    `mem_anchorsOf`) that are the tail or the head of some edge item of the list -/
theorem dotBody_holders (t : T) (F fuel s : Nat) (items : List Item) (l : List Nat)
    (h : dotBody t F fuel s = .ok items) (hl : listing t fuel s = .ok l) :
    items.filterMap (fun i => match i with | .holder j => some j | _ => none) =
      l.filter (fun j => t.isSched j && ((t.mem j).isEmpty && (anchorsOf t items).contains j)) := by
  obtain ⟨_, _, _, hls, he⟩ := dotBody_emits h
  cases hls.symm.trans hl
  rw [holderId_eq]
  exact emits_holders he

/-- every requirement of every listed job is exactly one edge and there is no other edge; `Perm`, not equality: the
    edges of a nested scheduler come after those of its jobs -/
theorem dotBody_edges (t : T) (F fuel s : Nat) (items : List Item) (l : List Nat)
    (h : dotBody t F fuel s = .ok items) (hl : listing t fuel s = .ok l) :
    (items.filterMap edgeKey).Perm (l.flatMap fun x => (t.req x).map fun r => (x, r)) := by
  obtain ⟨_, _, _, hls, he⟩ := dotBody_emits h
  cases hls.symm.trans hl
  rw [edgeKey_eq]
  exact emits_edges he

/-- the invisible node of an empty nested scheduler is inside its own cluster, which contains nothing else -/
theorem dotBody_holder_place (t : T) (F fuel s : Nat) (items : List Item)
    (h : dotBody t F fuel s = .ok items) :
    ∀ pre j post, items = pre ++ Item.holder j :: post →
      (∃ pre', pre = pre' ++ [Item.openCluster j]) ∧ ∃ post', post = Item.close :: post' :=
  let ⟨_, _, _, _, he⟩ := dotBody_emits h
  emits_placed he

/-- clusters are well bracketed (with `Gap4.dotBody_parent`: nested as the schedulers are) -/
theorem dotBody_brackets (t : T) (F fuel s : Nat) (items : List Item)
    (h : dotBody t F fuel s = .ok items) : depthOk 0 items = true := by
  obtain ⟨_, _, _, _, he⟩ := dotBody_emits h
  simpa [depthOk] using emits_bal he 0 []

/-- every edge item comes from a requirement `r` of some `j`; its ends stand for `r` and `j` (`End`), and both ends are
    declared in the document -/
theorem dotBody_edge {t : T} {F fuel s : Nat} {items : List Item} (h : dotBody t F fuel s = .ok items)
    {a b : Nat} {c d : Option Nat} (hm : Item.edge a b c d ∈ items) :
    ∃ j r, r ∈ t.req j ∧ End t r a ∧ End t j b ∧ c = cl t j ∧ d = cl t r ∧ jobItem t a ∈ items ∧ jobItem t b ∈ items := by
  obtain ⟨l, _, hl, _, he⟩ := dotBody_emits h
  obtain ⟨j, r, ⟨kj, hkj, uj⟩, ⟨kr, hkr, ur⟩, hr, h1, h2, hc, hd⟩ :=
    emits_origin he l (fun k hk => ⟨hk, fun r hr => C15.topo_req_mem hl hk hr⟩) a b c d hm
  have e1 := exitEnd_end h1
  have e2 := entryEnd_end h2
  exact ⟨j, r, hr, e1, e2, hc, hd, emits_under he a ⟨kr, hkr, ur.trans e1.1⟩, emits_under he b ⟨kj, hkj, uj.trans e2.1⟩⟩

/-- an end of an edge is an atomic job, or an empty scheduler (its invisible node) and then `ltail` / `lhead` is given;
    what `lhead` / `ltail` name are schedulers -/
theorem dotBody_edge_endpoints (t : T) (F fuel s : Nat) (items : List Item)
    (h : dotBody t F fuel s = .ok items) :
    ∀ src dst lh lt, Item.edge src dst lh lt ∈ items →
      (t.isSched src = false ∨ (t.isSched src = true ∧ t.mem src = [] ∧ ∃ c, lt = some c)) ∧
      (t.isSched dst = false ∨ (t.isSched dst = true ∧ t.mem dst = [] ∧ ∃ c, lh = some c)) ∧
      (∀ c, lh = some c → t.isSched c = true) ∧ (∀ c, lt = some c → t.isSched c = true) := by
  intro src dst lh lt hm
  obtain ⟨j, r, _, e1, e2, rfl, rfl, _⟩ := dotBody_edge h hm
  exact ⟨e1.atomic_or_empty, e2.atomic_or_empty, fun c hc => (cl_some hc).1 ▸ (cl_some hc).2, fun c hc => (cl_some hc).1 ▸ (cl_some hc).2⟩

/-- which schedulers get an invisible node: the nested schedulers of the document (their cluster is there) without
    jobs that are the tail or the head of some edge item -/
theorem holder_iff_anchored (t : T) (F fuel s : Nat) (items : List Item)
    (h : dotBody t F fuel s = .ok items) (j : Nat) :
    Item.holder j ∈ items ↔
      Item.openCluster j ∈ items ∧ t.mem j = [] ∧
        ∃ src dst lh lt, Item.edge src dst lh lt ∈ items ∧ (src = j ∨ dst = j) := by
  obtain ⟨_, _, _, _, he⟩ := dotBody_emits h
  rw [← mem_filterMap_holderId, ← mem_filterMap_clusterOf, emits_holders he, (emits_nodes he).2]
  simp only [List.mem_filter, Bool.and_eq_true, List.isEmpty_iff, List.contains_eq_mem, decide_eq_true_eq, and_assoc]
  rw [mem_anchorsOf]
  exact ⟨fun ⟨a, b, c, _, d⟩ => ⟨a, b, c, d⟩, fun ⟨a, b, c, d⟩ => ⟨a, b, c, ⟨b, c⟩, d⟩⟩

/-- every edge endpoint is a node of the document: an endpoint that is a scheduler (necessarily an empty one, see
    `dotBody_edge_endpoints`; an atomic endpoint has its `node` item by `dotBody_nodes`) has its `holder` item -/
theorem edge_endpoint_has_node (t : T) (F fuel s : Nat) (items : List Item)
    (h : dotBody t F fuel s = .ok items) :
    ∀ src dst lh lt, Item.edge src dst lh lt ∈ items →
      (t.isSched src = true → Item.holder src ∈ items) ∧
      (t.isSched dst = true → Item.holder dst ∈ items) := by
  intro src dst lh lt hm
  obtain ⟨j, r, _, e1, e2, _, _, i1, i2⟩ := dotBody_edge h hm
  constructor
  · intro hs
    refine (holder_iff_anchored t F fuel s items h src).2 ⟨by simpa [jobItem, hs] using i1,
      e1.2.resolve_left (by simp [hs]), src, dst, lh, lt, hm, Or.inl rfl⟩
  · intro hs
    refine (holder_iff_anchored t F fuel s items h dst).2 ⟨by simpa [jobItem, hs] using i2,
      e2.2.resolve_left (by simp [hs]), src, dst, lh, lt, hm, Or.inr rfl⟩

/-- `dot_format()`'s two runs of `_dot_body` succeed on every tree on which `listing` does (topological order found
    at every level, i.e. no cycle and no requirement outside its scheduler): in particular an empty nested scheduler,
    required or requiring, does not make it raise.  `hwf`: members have larger ids, below `n` (what the harness
    generates); `hF`: the fuel of the `_middle_*_job` descents is at least `n` (the driver uses `n + 1`). -/
theorem dotBody_total (t : T) (F fuel s : Nat) (l : List Nat)
    (hs : t.isSched s = true)
    (hwf : ∀ s', (s' = s ∨ Desc t s s') → t.isSched s' = true → ∀ k ∈ t.mem s', s' < k ∧ k < t.n)
    (hF : t.n ≤ F)
    (hl : listing t fuel s = .ok l) :
    ∃ items, dotBody t F fuel s = .ok items := by
  have hE := edges_total hwf hF (C15.listing_topo t fuel s l hl)
  obtain ⟨i0, h0⟩ := dotBodyWith_total t [] F fuel s l hs hE hl
  obtain ⟨items, h1⟩ := dotBodyWith_total t (anchorsOf t i0) F fuel s l hs hE hl
  exact ⟨items, by unfold dotBody; rw [h0]; exact h1⟩

/-- `dot_format()` raises only what `_set_sched_ids` raises: once the ids are assigned, the body is produced -/
theorem dotItems_total (t : T) (fuel s nxt : Nat) (ids : List (Nat × Nat))
    (hs : t.isSched s = true)
    (hwf : ∀ s', (s' = s ∨ Desc t s s') → t.isSched s' = true → ∀ k ∈ t.mem s', s' < k ∧ k < t.n)
    (hF : t.n ≤ fuel)
    (hids : assignIds t fuel s 1 = .ok (nxt, ids)) :
    ∃ items, dotItems t fuel s = .ok items := by
  unfold dotItems
  rw [hids]
  exact dotBody_total t fuel fuel s _ hs hwf hF (C15.ids_consecutive t fuel s 1 nxt ids hids).2.2

end AJ.Proofs.C20

namespace AJ.Proofs.Gap4

/-- the clusters open after a prefix, innermost first -/
def openStack : List Nat → List Item → List Nat
  | st, [] => st
  | st, .openCluster j :: r => openStack (j :: st) r
  | st, .close :: r => openStack st.tail r
  | st, _ :: r => openStack st r

/-- walking the items with the stack of open clusters (`r` = the scheduler exported): every node and every cluster
    is a member of the innermost open cluster, every invisible node is that of the innermost open cluster -/
def nestOk (t : T) (r : Nat) : List Nat → List Item → Prop
  | _, [] => True
  | st, .node x :: rest => x ∈ t.mem (st.head?.getD r) ∧ nestOk t r st rest
  | st, .openCluster x :: rest => x ∈ t.mem (st.head?.getD r) ∧ nestOk t r (x :: st) rest
  | st, .close :: rest => nestOk t r st.tail rest
  | st, .holder x :: rest => st.head? = some x ∧ nestOk t r st rest
  | st, .edge _ _ _ _ :: rest => nestOk t r st rest

theorem nestOk_edges {t : T} {r : Nat} {st : List Nat} {rest : List Item} (hr : nestOk t r st rest) :
    ∀ {es : List Item}, C20.AllEdges es → nestOk t r st (es ++ rest)
  | [], _ => hr
  | e :: es, h => by
    obtain ⟨a, b, c, d, rfl⟩ := h e (by simp)
    exact nestOk_edges hr (es := es) h.tail

theorem nestOk_holderOf (t : T) (r : Nat) (anch : List Nat) (j : Nat) (st : List Nat) (rest : List Item)
    (hr : nestOk t r (j :: st) rest) : nestOk t r (j :: st) (holderOf t anch j ++ rest) := by
  unfold holderOf
  split
  · exact ⟨rfl, hr⟩
  · exact hr

/-- the items of the jobs `l` of a scheduler are well nested below it and leave the stack as they found it -/
theorem emits_nestOk {t : T} {anch : List Nat} {F : Nat} {l ls : List Nat} {items : List Item}
    (h : C20.Emits t anch F l ls items) : ∀ (r : Nat) (st : List Nat) (rest : List Item),
      (∀ j ∈ l, j ∈ t.mem (st.head?.getD r)) → nestOk t r st rest → nestOk t r st (items ++ rest) := by
  induction h with
  | nil => intro _ _ _ _ hr; exact hr
  | @node j _ _ _ _ _ hes _ ih =>
    intro r st rest hl hr
    simp only [List.cons_append, List.append_assoc]
    exact ⟨hl j (by simp), nestOk_edges (ih r st rest (fun k hk => hl k (by simp [hk])) hr) (C20.edgesOf_allEdges hes)⟩
  | @cluster j _ _ lj _ _ _ _ _ hlj _ hes _ ihs ih =>
    intro r st rest hl hr
    simp only [List.cons_append, List.append_assoc]
    refine ⟨hl j (by simp), nestOk_holderOf t r anch j st _ ?_⟩
    exact ihs r (j :: st) _ (C15.topo_subset hlj)
      (nestOk_edges (ih r st rest (fun k hk => hl k (by simp [hk])) hr) (C20.edgesOf_allEdges hes))

theorem nestOk_split (t : T) (r : Nat) : ∀ (pre : List Item) (st : List Nat) (i : Item) (post : List Item),
    nestOk t r st (pre ++ i :: post) →
      (∀ x, (i = .node x ∨ i = .openCluster x) → x ∈ t.mem ((openStack st pre).head?.getD r)) ∧
      (∀ x, i = .holder x → (openStack st pre).head? = some x) := by
  intro pre
  induction pre with
  | nil =>
    intro st i post h
    simp only [List.nil_append] at h
    constructor
    · rintro x (rfl | rfl)
      · exact h.1
      · exact h.1
    · rintro x rfl
      exact h.1
  | cons p pre ih =>
    intro st i post h
    cases p with
    | node y => exact ih st i post h.2
    | openCluster y => exact ih (y :: st) i post h.2
    | close => exact ih st.tail i post h
    | holder y => exact ih st i post h.2
    | edge a b c d => exact ih st i post h

/-- C20 (nesting of the document = nesting of the tree): in the items of `dot_format()` on `s`, every node and every
    cluster is a direct member of the innermost cluster open at that point (of `s` itself when none is open), and
    every invisible node is that of the innermost open cluster. -/
theorem dotBody_parent (t : T) (F fuel s : Nat) (items : List Item) (h : dotBody t F fuel s = .ok items) :
    ∀ pre i post, items = pre ++ i :: post →
      (∀ x, (i = .node x ∨ i = .openCluster x) → x ∈ t.mem ((openStack [] pre).head?.getD s)) ∧
      (∀ x, i = .holder x → (openStack [] pre).head? = some x) := by
  intro pre i post e
  obtain ⟨l, _, hl, _, he⟩ := C20.dotBody_emits h
  have := emits_nestOk he s [] [] (C15.topo_subset hl) trivial
  rw [List.append_nil, e] at this
  exact nestOk_split t s pre [] i post this

set_option linter.unusedVariables false in
/-- C20 (unique ids in the text): two different jobs of the document are printed with different ids — the numbers
    `_set_sched_ids` gives are distinct, and zero-padding to a common width keeps them distinct. -/
theorem ids_unique (c : RenderCtx) (fuel s nxt : Nat) (ids : List (Nat × Nat))
    (h : assignIds c.t fuel s 1 = .ok (nxt, ids)) (hc : ∀ p ∈ ids, c.idOf p.1 = p.2) (hnd : (ids.map (·.1)).Nodup) :
    ∀ x ∈ ids.map (·.1), ∀ y ∈ ids.map (·.1), c.rid x = c.rid y → x = y := by
  intro x hx y hy hxy
  obtain ⟨p, hp, rfl⟩ := List.mem_map.1 hx
  obtain ⟨q, hq, rfl⟩ := List.mem_map.1 hy
  have h2 : (ids.map (·.2)).Nodup := by
    rw [(C15.ids_consecutive c.t fuel s 1 nxt ids h).1]
    exact List.nodup_range'
  have e : p.2 = q.2 := by
    apply C20.padId_inj c.w
    simpa only [RenderCtx.rid, hc p hp, hc q hq] using hxy
  rw [C15.map_inj_of_nodup (·.2) ids h2 p hp q hq e]

set_option linter.unusedVariables false in
/-- C20 (physical edge endpoints): an end of an edge that is an atomic job has its `node` item in the document, and
    when the edge names a cluster (`ltail` / `lhead`) its physical end is that scheduler itself (empty, invisible node)
    or a job of its subtree — so the arrow clipped at the cluster border does come from / go to inside it.
    (The hypothesis `hcl` is not needed: a successful export already implies it.) -/
theorem edge_physical (t : T) (F fuel s : Nat) (items : List Item) (h : dotBody t F fuel s = .ok items)
    (hcl : ∀ s', (s' = s ∨ Desc t s s') → t.isSched s' = true → Closed t s') :
    ∀ src dst lh lt, Item.edge src dst lh lt ∈ items →
      (t.isSched src = false → Item.node src ∈ items) ∧ (t.isSched dst = false → Item.node dst ∈ items) ∧
      (∀ c, lt = some c → src = c ∨ Desc t c src) ∧ (∀ c, lh = some c → dst = c ∨ Desc t c dst) := by
  intro src dst lh lt hm
  obtain ⟨j, r, _, e1, e2, rfl, rfl, i1, i2⟩ := C20.dotBody_edge h hm
  exact ⟨fun hs => by simpa [C20.jobItem, hs] using i1, fun hs => by simpa [C20.jobItem, hs] using i2,
    fun c hc => (C20.cl_some hc).1 ▸ e1.1, fun c hc => (C20.cl_some hc).1 ▸ e2.1⟩

end AJ.Proofs.Gap4
