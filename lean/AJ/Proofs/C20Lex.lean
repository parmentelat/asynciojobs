/-
  C20 — the string returned by `dot_format()` lexes into exactly the intended tokens: every quoted string closes where
  it should, its contents are the raw attribute value, ids and cluster names are single ID tokens, and nothing else is
  in the text. The fuel of the lexer does not matter (`lexDot_fuel`); one rule per kind of token says how a text that
  begins with it lexes (`Lexes`, `lex_*`); the rules are chained along the characters of the text (`render_toList`).
-/
import AJ.Model.DotLex
import AJ.Proofs.C20Style
namespace AJ.Proofs.C20Lex

theorem unquote_length (l : List Char) :
    ∀ x r, unquoteChars l = some (x, r) → r.length ≤ l.length := by
  have hmap : ∀ (c : Char) (rest x r : List Char),
      (unquoteChars rest).map (fun p => (c :: p.1, p.2)) = some (x, r) → ∃ a, unquoteChars rest = some (a, r) := by
    intro c rest x r h
    obtain ⟨⟨a, b⟩, hab, h⟩ := Option.map_eq_some_iff.1 h
    cases h
    exact ⟨a, hab⟩
  fun_induction unquoteChars l with
  | case1 => intro x r h; simp at h
  | case2 rest => intro x r h; simp at h; obtain ⟨_, rfl⟩ := h; simp
  | case3 rest ih =>
    intro x r h
    obtain ⟨a, ha⟩ := hmap _ _ _ _ h
    have := ih _ _ ha
    simp only [List.length_cons]; omega
  | case4 c rest _ _ ih =>
    intro x r h
    obtain ⟨a, ha⟩ := hmap _ _ _ _ h
    have := ih _ _ ha
    simp only [List.length_cons]; omega

theorem spanId_length (l : List Char) : (spanId l).2.length ≤ l.length := by
  induction l with
  | nil => simp [spanId]
  | cons c cs ih =>
    simp only [spanId]
    split
    · simp only [List.length_cons]; omega
    · simp

theorem lexDot_fuel : ∀ (f1 f2 : Nat) (l : List Char), l.length ≤ f1 → l.length ≤ f2 → lexDot f1 l = lexDot f2 l := by
  intro f1
  induction f1 with
  | zero =>
    intro f2 l h1 h2
    cases l with
    | nil => cases f2 <;> simp [lexDot]
    | cons => simp at h1
  | succ f ih =>
    intro f2 l h1 h2
    cases l with
    | nil => cases f2 <;> simp [lexDot]
    | cons c cs =>
      cases f2 with
      | zero => simp at h2
      | succ g =>
        simp only [List.length_cons, Nat.add_le_add_iff_right] at h1 h2
        simp only [lexDot]
        rw [ih g cs h1 h2]
        -- along the `if` chain of `lexDot` (space, `"`, seven punctuation characters, `-`, ID): only the recursive
        -- calls see the fuel, each on a shorter text
        refine ite_congr rfl (fun _ => rfl) (fun _ => ?_)
        refine ite_congr rfl (fun _ => ?_) (fun _ => ?_)
        · cases hu : unquoteChars cs with
          | none => rfl
          | some p =>
            obtain ⟨x, r⟩ := p
            have := unquote_length cs x r hu
            simp only
            rw [ih g r (by omega) (by omega)]
        iterate 7 refine ite_congr rfl (fun _ => rfl) (fun _ => ?_)
        refine ite_congr rfl (fun _ => ?_) (fun _ => ?_)
        · split
          · rename_i rest
            simp only [List.length_cons] at h1 h2
            rw [ih g rest (by omega) (by omega)]
          · rfl
        refine ite_congr rfl (fun hc => ?_) (fun _ => rfl)
        have h3 : (spanId (c :: cs)).2 = (spanId cs).2 := by simp [spanId, hc]
        have := spanId_length cs
        refine ite_congr rfl (fun _ => ?_) (fun _ => rfl)
        rw [h3, ih g _ (by omega) (by omega)]

def Lexes (l : List Char) (ts : List Tok) : Prop := lexDot l.length l = some ts

theorem lexes_nil : Lexes [] [] := rfl

theorem lexDot_of_lexes {l : List Char} {ts : List Tok} (h : Lexes l ts) {f : Nat} (hf : l.length ≤ f) :
    lexDot f l = some ts := by
  rw [lexDot_fuel f l.length l hf (Nat.le_refl _)]; exact h

theorem lex_space {c : Char} {rest : List Char} {ts : List Tok} (hc : isSpaceChar c = true) (h : Lexes rest ts) :
    Lexes (c :: rest) ts := by
  unfold Lexes at *
  simp only [List.length_cons, lexDot, hc, if_true]; exact h

theorem lex_sp {rest : List Char} {ts : List Tok} (h : Lexes rest ts) : Lexes (' ' :: rest) ts :=
  lex_space (by decide) h

theorem lex_nl {rest : List Char} {ts : List Tok} (h : Lexes rest ts) : Lexes ('\n' :: rest) ts :=
  lex_space (by decide) h

theorem lex_lbrace {rest : List Char} {ts : List Tok} (h : Lexes rest ts) : Lexes ('{' :: rest) (Tok.lbrace :: ts) := by
  unfold Lexes at *; simp [lexDot, isSpaceChar, h]

theorem lex_rbrace {rest : List Char} {ts : List Tok} (h : Lexes rest ts) : Lexes ('}' :: rest) (Tok.rbrace :: ts) := by
  unfold Lexes at *; simp [lexDot, isSpaceChar, h]

theorem lex_lbrack {rest : List Char} {ts : List Tok} (h : Lexes rest ts) : Lexes ('[' :: rest) (Tok.lbrack :: ts) := by
  unfold Lexes at *; simp [lexDot, isSpaceChar, h]

theorem lex_rbrack {rest : List Char} {ts : List Tok} (h : Lexes rest ts) : Lexes (']' :: rest) (Tok.rbrack :: ts) := by
  unfold Lexes at *; simp [lexDot, isSpaceChar, h]

theorem lex_semi {rest : List Char} {ts : List Tok} (h : Lexes rest ts) : Lexes (';' :: rest) (Tok.semi :: ts) := by
  unfold Lexes at *; simp [lexDot, isSpaceChar, h]

theorem lex_comma {rest : List Char} {ts : List Tok} (h : Lexes rest ts) : Lexes (',' :: rest) (Tok.comma :: ts) := by
  unfold Lexes at *; simp [lexDot, isSpaceChar, h]

theorem lex_eq {rest : List Char} {ts : List Tok} (h : Lexes rest ts) : Lexes ('=' :: rest) (Tok.eq :: ts) := by
  unfold Lexes at *; simp [lexDot, isSpaceChar, h]

theorem lex_arrow {rest : List Char} {ts : List Tok} (h : Lexes rest ts) :
    Lexes ('-' :: '>' :: rest) (Tok.arrow :: ts) := by
  have := lexDot_of_lexes h (f := rest.length + 1) (by omega)
  unfold Lexes at *; simp [lexDot, isSpaceChar, this]

abbrev NoBs (v : List Char) : Prop := ∀ ch ∈ v, ch ≠ '\\'

theorem lex_str {v rest : List Char} {ts : List Tok} (hv : NoBs v) (h : Lexes rest ts) :
    Lexes ('"' :: (protectChars v ++ '"' :: rest)) (Tok.str v :: ts) := by
  have := lexDot_of_lexes h (f := (protectChars v ++ '"' :: rest).length) (by simp; omega)
  simp only [List.length_append, List.length_cons] at this
  unfold Lexes at *
  simp [lexDot, isSpaceChar, C20.quote_roundtrip v rest hv, this]

/-- a non-empty list of ID characters that is an identifier or a numeral -/
def IdOk (xs : List Char) : Prop := xs ≠ [] ∧ (∀ ch ∈ xs, isIdChar ch = true) ∧ validIdRun xs = true

theorem isIdChar_of_isIdentChar {ch : Char} (h : isIdentChar ch = true) : isIdChar ch = true := by
  simp only [isIdentChar, isIdChar, Bool.or_eq_true] at h ⊢
  exact Or.inl h

theorem isIdChar_of_isDigit {ch : Char} (h : ch.isDigit = true) : isIdChar ch = true := by
  simp [isIdChar, Char.isAlphanum, h]

theorem isIdentChar_of_isDigit {ch : Char} (h : ch.isDigit = true) : isIdentChar ch = true := by
  simp [isIdentChar, Char.isAlphanum, h]

theorem isIdentChar_of_isIdentStart {ch : Char} (h : isIdentStart ch = true) : isIdentChar ch = true := by
  simp only [isIdentChar, isIdentStart, Char.isAlphanum, Bool.or_eq_true] at h ⊢
  rcases h with h | h
  · exact Or.inl (Or.inl h)
  · exact Or.inr h

theorem idOk_of_ident {xs : List Char} (h : isIdentRun xs = true) : IdOk xs := by
  cases xs with
  | nil => simp [isIdentRun] at h
  | cons x xs =>
    simp only [isIdentRun, Bool.and_eq_true, List.all_eq_true] at h
    refine ⟨by simp, ?_, ?_⟩
    · intro ch hch
      rcases List.mem_cons.1 hch with rfl | hch
      · exact isIdChar_of_isIdentChar (isIdentChar_of_isIdentStart h.1)
      · exact isIdChar_of_isIdentChar (h.2 ch hch)
    · simp only [validIdRun, isIdentRun, Bool.or_eq_true, Bool.and_eq_true, List.all_eq_true]
      exact Or.inl h

theorem isIdentRun_append {a b : List Char} (ha : isIdentRun a = true) (hb : ∀ ch ∈ b, isIdentChar ch = true) :
    isIdentRun (a ++ b) = true := by
  cases a with
  | nil => cases ha
  | cons x a =>
    simp only [isIdentRun, Bool.and_eq_true, List.all_eq_true, List.cons_append, List.mem_append] at ha ⊢
    exact ⟨ha.1, fun ch h => h.elim (ha.2 ch) (hb ch)⟩

theorem dropWhile_isDigit_of_all {xs : List Char} (h : ∀ ch ∈ xs, ch.isDigit = true) :
    xs.dropWhile Char.isDigit = [] := by
  simpa using List.dropWhile_append_of_pos (l₂ := []) h

theorem idOk_of_digits {xs : List Char} (hne : xs ≠ []) (h : ∀ ch ∈ xs, ch.isDigit = true) : IdOk xs := by
  refine ⟨hne, ?_, ?_⟩
  · exact fun ch hch => isIdChar_of_isDigit (h ch hch)
  · cases xs with
    | nil => exact absurd rfl hne
    | cons x xs =>
      have hx := h x (by simp)
      have hdot : x ≠ '.' := by
        intro e; subst e; revert hx; decide
      have hd := dropWhile_isDigit_of_all (xs := xs) (fun ch hch => h ch (by simp [hch]))
      simp [validIdRun, isNumeralRun, hdot, hx, hd]

theorem spanId_append {xs : List Char} {d : Char} {rest : List Char} (hx : ∀ ch ∈ xs, isIdChar ch = true)
    (hd : isIdChar d = false) : spanId (xs ++ d :: rest) = (xs, d :: rest) := by
  induction xs with
  | nil => simp [spanId, hd]
  | cons x xs ih =>
    have := ih (fun ch h => hx ch (by simp [h]))
    simp [spanId, hx x (by simp), this]

theorem idChar_not_special {x : Char} (hx : isIdChar x = true) :
    isSpaceChar x = false ∧ x ≠ '"' ∧ x ≠ '{' ∧ x ≠ '}' ∧ x ≠ '[' ∧ x ≠ ']' ∧ x ≠ ';' ∧ x ≠ ',' ∧ x ≠ '=' ∧ x ≠ '-' := by
  refine ⟨?_, ?_, ?_, ?_, ?_, ?_, ?_, ?_, ?_, ?_⟩
  · cases hs : isSpaceChar x with
    | false => rfl
    | true =>
      simp only [isSpaceChar, Bool.or_eq_true, beq_iff_eq] at hs
      rcases hs with ((rfl | rfl) | rfl) | rfl <;> revert hx <;> decide
  all_goals (intro h; subst h; revert hx; decide)

theorem lex_id {xs : List Char} {d : Char} {rest : List Char} {ts : List Tok} (hx : IdOk xs)
    (hd : isIdChar d = false) (h : Lexes (d :: rest) ts) : Lexes (xs ++ d :: rest) (Tok.id xs :: ts) := by
  obtain ⟨hne, hall, hvalid⟩ := hx
  cases xs with
  | nil => exact absurd rfl hne
  | cons x xs =>
    have hx := hall x (by simp)
    obtain ⟨h1, h2, h3, h4, h5, h6, h7, h8, h9, h10⟩ := idChar_not_special hx
    have hsp := spanId_append (rest := rest) hall hd
    have := lexDot_of_lexes h (f := (xs ++ d :: rest).length) (by simp)
    simp only [List.length_append, List.length_cons] at this
    unfold Lexes at *
    simp only [List.cons_append, List.length_cons, lexDot] at hsp ⊢
    simp only [h1, h2, h3, h4, h5, h6, h7, h8, h9, h10, hx, if_false, if_true, Bool.false_eq_true]
    rw [hsp]
    simp [this, hvalid]

theorem noBs_of_idChars {v : List Char} (h : ∀ ch ∈ v, isIdChar ch = true) : NoBs v := by
  intro ch hch e
  subst e
  exact absurd (h _ hch) (by decide)

theorem rid_digits (c : RenderCtx) (j : Nat) : ∀ ch ∈ (c.rid j).toList, ch.isDigit = true := by
  rw [RenderCtx.rid, C20.padId_toList]
  intro ch hch
  rcases List.mem_append.1 hch with h | h
  · rw [(List.mem_replicate.1 h).2]; decide
  · exact Nat.isDigit_of_mem_toDigits (by decide) (by decide) h

theorem rid_ne_nil (c : RenderCtx) (j : Nat) : (c.rid j).toList ≠ [] := by
  rw [RenderCtx.rid, C20.padId_toList]
  intro h
  exact Nat.toDigits_ne_nil (List.append_eq_nil_iff.1 h).2

theorem rid_idOk (c : RenderCtx) (j : Nat) : IdOk (c.rid j).toList :=
  idOk_of_digits (rid_ne_nil c j) (rid_digits c j)

theorem cluster_toList (c : RenderCtx) (s : Nat) : (clusterName c s).toList = "cluster_".toList ++ (c.rid s).toList := by
  simp only [clusterName, String.toList_append]

theorem cluster_idOk (c : RenderCtx) (s : Nat) : IdOk (clusterName c s).toList := by
  rw [cluster_toList]
  exact idOk_of_ident (isIdentRun_append (by decide) fun ch h => isIdentChar_of_isDigit (rid_digits c s ch h))

theorem style_noBs (c : RenderCtx) (j : Nat) : NoBs (",".intercalate (styleList c j)).toList := by
  unfold styleList
  cases c.t.isSched j <;> cases c.t.forever j <;> decide

theorem key_idOk : ∀ k ∈ ["style", "label", "shape", "color", "penwidth"], IdOk (k : String).toList :=
  fun k hk => idOk_of_ident (by revert k; decide)

theorem val_noBs : ∀ v ∈ ["box", "red", "2", "black", "0.5"], NoBs (v : String).toList := by
  decide

theorem styleAttrs_ok (c : RenderCtx) (hlab : ∀ j, NoBs (c.label j).toList) (j : Nat) :
    ∀ kv ∈ styleAttrs c j, IdOk kv.1.toList ∧ NoBs kv.2.toList := by
  intro kv hkv
  obtain ⟨hk, hv⟩ := C20.styleAttrs_mem hkv
  refine ⟨key_idOk _ hk, ?_⟩
  rcases hv with e | e | hv
  · rw [e]; exact style_noBs c j
  · rw [e]
    simp only [String.toList_append]
    refine List.forall_mem_append.2 ⟨List.forall_mem_append.2 ⟨noBs_of_idChars (rid_idOk c j).2.1, ?_⟩, hlab j⟩
    decide
  · exact val_noBs _ hv

theorem holderAttrs_ok : ∀ kv ∈ holderAttrs, IdOk kv.1.toList ∧ NoBs kv.2.toList := by
  intro kv hkv
  simp only [holderAttrs, List.mem_cons, List.not_mem_nil, or_false] at hkv
  rcases hkv with rfl | rfl <;> exact ⟨key_idOk _ (by simp), by decide⟩

/-- tokens of an attribute list `k1="v1",k2="v2",…` -/
def attrToks : List (String × String) → List Tok
  | [] => []
  | [kv] => [Tok.id kv.1.toList, Tok.eq, Tok.str kv.2.toList]
  | kv :: rest => Tok.id kv.1.toList :: Tok.eq :: Tok.str kv.2.toList :: Tok.comma :: attrToks rest

def clusterTok (c : RenderCtx) (s : Nat) : Tok := Tok.id (clusterName c s).toList

/-- the tokens one item is meant to produce -/
def itemToks (c : RenderCtx) : Item → List Tok
  | .node j => Tok.id (c.rid j).toList :: Tok.lbrack :: attrToks (styleAttrs c j) ++ [Tok.rbrack]
  | .openCluster s =>
    [Tok.id "subgraph".toList, clusterTok c s, Tok.lbrace, Tok.id "compound".toList, Tok.eq, Tok.id "true".toList,
     Tok.semi, Tok.id "graph".toList, Tok.lbrack] ++ attrToks (styleAttrs c s) ++ [Tok.rbrack, Tok.semi]
  | .close => [Tok.rbrace]
  | .edge a b none none => [Tok.id (c.rid a).toList, Tok.arrow, Tok.id (c.rid b).toList, Tok.semi]
  | .edge a b none (some tl) =>
    [Tok.id (c.rid a).toList, Tok.arrow, Tok.id (c.rid b).toList, Tok.lbrack, Tok.id "ltail".toList, Tok.eq,
     clusterTok c tl, Tok.rbrack, Tok.semi]
  | .edge a b (some hd) none =>
    [Tok.id (c.rid a).toList, Tok.arrow, Tok.id (c.rid b).toList, Tok.lbrack, Tok.id "lhead".toList, Tok.eq,
     clusterTok c hd, Tok.rbrack, Tok.semi]
  | .edge a b (some hd) (some tl) =>
    [Tok.id (c.rid a).toList, Tok.arrow, Tok.id (c.rid b).toList, Tok.lbrack, Tok.id "lhead".toList, Tok.eq,
     clusterTok c hd, Tok.id "ltail".toList, Tok.eq, clusterTok c tl, Tok.rbrack, Tok.semi]
  | .holder s => Tok.id (c.rid s).toList :: Tok.lbrack :: attrToks holderAttrs ++ [Tok.rbrack]

/-- the tokens of the whole output -/
def docToks (c : RenderCtx) (items : List Item) : List Tok :=
  [Tok.id "digraph".toList, Tok.id "asynciojobs".toList, Tok.lbrace, Tok.id "compound".toList, Tok.eq,
   Tok.id "true".toList, Tok.semi, Tok.id "graph".toList, Tok.lbrack, Tok.rbrack, Tok.semi] ++
  (items.flatMap (itemToks c)) ++ [Tok.rbrace]

/-- the characters of `k="v"` -/
def kvChars (kv : String × String) : List Char :=
  kv.1.toList ++ '=' :: '"' :: (protectChars kv.2.toList ++ ['"'])

def attrsChars : List (String × String) → List Char
  | [] => []
  | [kv] => kvChars kv
  | kv :: rest => kvChars kv ++ ',' :: attrsChars rest

theorem protect_toList (v : String) : (protect v).toList = '"' :: (protectChars v.toList ++ ['"']) := by
  simp [protect]

theorem renderAttrs_toList : ∀ as, (renderAttrs as).toList = attrsChars as
  | [] => rfl
  | [kv] => by
    simp [renderAttrs, attrsChars, kvChars, protect_toList, String.toList_append]
  | kv :: kv' :: l => by
    have ih := renderAttrs_toList (kv' :: l)
    simp only [renderAttrs, List.map_cons, String.intercalate_cons_cons, String.toList_append] at ih ⊢
    rw [ih]
    simp [attrsChars, kvChars, protect_toList]

/-- ` [lhead=cluster_h ltail=cluster_t]`, as far as present -/
def edgeAttrChars (c : RenderCtx) : Option Nat → Option Nat → List Char
  | none, none => []
  | none, some t => ' ' :: '[' :: ("ltail".toList ++ '=' :: ((clusterName c t).toList ++ [']']))
  | some h, none => ' ' :: '[' :: ("lhead".toList ++ '=' :: ((clusterName c h).toList ++ [']']))
  | some h, some t =>
    ' ' :: '[' :: ("lhead".toList ++ '=' :: ((clusterName c h).toList ++ ' ' ::
      ("ltail".toList ++ '=' :: ((clusterName c t).toList ++ [']']))))

/-- the characters of `renderItem`; what is left as a string is an id, a cluster name, an attribute key or value -/
def itemChars (c : RenderCtx) : Item → List Char
  | .node j => (c.rid j).toList ++ ' ' :: '[' :: (attrsChars (styleAttrs c j) ++ [']', '\n'])
  | .openCluster s =>
    "subgraph".toList ++ ' ' :: ((clusterName c s).toList ++ '{' :: '\n' :: ("compound".toList ++ '=' ::
      ("true".toList ++ ';' :: '\n' :: ("graph".toList ++ ' ' :: '[' ::
        (attrsChars (styleAttrs c s) ++ [']', ';', '\n'])))))
  | .close => ['}', '\n']
  | .edge a b hd tl =>
    (c.rid a).toList ++ ' ' :: '-' :: '>' :: ' ' :: ((c.rid b).toList ++ (edgeAttrChars c hd tl ++ [';', '\n']))
  | .holder s => (c.rid s).toList ++ ' ' :: '[' :: (attrsChars holderAttrs ++ [']', '\n'])

-- `unfold itemChars`, not `simp only [itemChars]`: the equation lemmas of a definition by cases that has
-- `"…".toList ++ …` in it cannot be generated (`whnf` runs away on the literal)
theorem renderItem_toList (c : RenderCtx) : ∀ it, (renderItem c it).toList = itemChars c it
  | .edge a b none none | .edge a b none (some _) | .edge a b (some _) none | .edge a b (some _) (some _) => by
    unfold itemChars
    simp only [renderItem, edgeAttrChars, String.toList_append, String.reduceToList, List.cons_append, List.nil_append,
      List.append_assoc]
  | .node _ | .openCluster _ | .close | .holder _ => by
    unfold itemChars
    simp only [renderItem, renderAttrs_toList, String.toList_append, String.reduceToList, List.cons_append,
      List.nil_append, List.append_assoc]

def docChars (c : RenderCtx) (items : List Item) : List Char :=
  "digraph".toList ++ ' ' :: ("asynciojobs".toList ++ '{' :: '\n' :: ("compound".toList ++ '=' ::
    ("true".toList ++ ';' :: '\n' :: ("graph".toList ++ ' ' :: '[' :: ']' :: ';' :: '\n' ::
      (items.flatMap (itemChars c) ++ ['}', '\n'])))))

theorem join_toList (c : RenderCtx) (l : List Item) :
    (String.join (l.map (renderItem c))).toList = l.flatMap (itemChars c) := by
  simp only [String.toList_join, List.map_map, List.flatMap]
  congr 2
  funext it
  exact renderItem_toList c it

theorem render_toList (c : RenderCtx) (items : List Item) : (render c items).toList = docChars c items := by
  unfold docChars render
  simp only [String.toList_append, join_toList, String.reduceToList, List.cons_append, List.nil_append]

theorem lex_kv {kv : String × String} {rest : List Char} {ts : List Tok} (hk : IdOk kv.1.toList) (hv : NoBs kv.2.toList)
    (h : Lexes rest ts) :
    Lexes (kvChars kv ++ rest) (Tok.id kv.1.toList :: Tok.eq :: Tok.str kv.2.toList :: ts) := by
  simp only [kvChars, List.append_assoc, List.cons_append, List.nil_append]
  exact lex_id hk (by decide) (lex_eq (lex_str hv h))

theorem lex_attrs : ∀ (as : List (String × String)), (∀ kv ∈ as, IdOk kv.1.toList ∧ NoBs kv.2.toList) →
    ∀ {rest : List Char} {ts : List Tok}, Lexes rest ts → Lexes (attrsChars as ++ rest) (attrToks as ++ ts)
  | [], _, rest, ts, h => h
  | [kv], has, rest, ts, h => lex_kv (has kv (by simp)).1 (has kv (by simp)).2 h
  | kv :: kv' :: l, has, rest, ts, h => by
    have ih := lex_attrs (kv' :: l) (fun x hx => has x (by simp [hx])) h
    simp only [attrsChars, attrToks, List.append_assoc, List.cons_append]
    exact lex_kv (has kv (by simp)).1 (has kv (by simp)).2 (lex_comma ih)

theorem kw_subgraph : IdOk "subgraph".toList := idOk_of_ident (by decide)
theorem kw_compound : IdOk "compound".toList := idOk_of_ident (by decide)
theorem kw_true : IdOk "true".toList := idOk_of_ident (by decide)
theorem kw_graph : IdOk "graph".toList := idOk_of_ident (by decide)
theorem kw_lhead : IdOk "lhead".toList := idOk_of_ident (by decide)
theorem kw_ltail : IdOk "ltail".toList := idOk_of_ident (by decide)
theorem kw_digraph : IdOk "digraph".toList := idOk_of_ident (by decide)
theorem kw_asynciojobs : IdOk "asynciojobs".toList := idOk_of_ident (by decide)

/-- `a -> b` followed by a character that ends the id `b` -/
theorem lex_edge_ends (c : RenderCtx) (a b : Nat) {d : Char} {rest : List Char} {ts : List Tok} (hd : isIdChar d = false)
    (h : Lexes (d :: rest) ts) :
    Lexes ((c.rid a).toList ++ ' ' :: '-' :: '>' :: ' ' :: ((c.rid b).toList ++ d :: rest))
      (Tok.id (c.rid a).toList :: Tok.arrow :: Tok.id (c.rid b).toList :: ts) :=
  lex_id (rid_idOk c a) (by decide) (lex_sp (lex_arrow (lex_sp (lex_id (rid_idOk c b) hd h))))

/-- `key=cluster_s` followed by a character that ends the name -/
theorem lex_cluster_attr (c : RenderCtx) {k : List Char} (hk : IdOk k) (s : Nat) {d : Char} {rest : List Char}
    {ts : List Tok} (hd : isIdChar d = false) (h : Lexes (d :: rest) ts) :
    Lexes (k ++ '=' :: ((clusterName c s).toList ++ d :: rest)) (Tok.id k :: Tok.eq :: clusterTok c s :: ts) :=
  lex_id hk (by decide) (lex_eq (lex_id (cluster_idOk c s) hd h))

/-- `id [attrs]` and a new line -/
theorem lex_node_line (c : RenderCtx) (j : Nat) {as : List (String × String)}
    (has : ∀ kv ∈ as, IdOk kv.1.toList ∧ NoBs kv.2.toList) {rest : List Char} {ts : List Tok} (h : Lexes rest ts) :
    Lexes ((c.rid j).toList ++ ' ' :: '[' :: (attrsChars as ++ ']' :: '\n' :: rest))
      (Tok.id (c.rid j).toList :: Tok.lbrack :: (attrToks as ++ Tok.rbrack :: ts)) :=
  lex_id (rid_idOk c j) (by decide) (lex_sp (lex_lbrack (lex_attrs _ has (lex_rbrack (lex_nl h)))))

theorem lex_item (c : RenderCtx) (hlab : ∀ j, NoBs (c.label j).toList) {rest : List Char} {ts : List Tok}
    (h : Lexes rest ts) : ∀ it : Item, Lexes (itemChars c it ++ rest) (itemToks c it ++ ts)
  | .node j => by
    unfold itemChars
    simpa [itemToks] using lex_node_line c j (styleAttrs_ok c hlab j) h
  | .holder s => by
    unfold itemChars
    simpa [itemToks] using lex_node_line c s holderAttrs_ok h
  | .close => lex_rbrace (lex_nl h)
  | .openCluster s => by
    unfold itemChars
    simp only [itemToks, clusterTok, List.cons_append, List.append_assoc, List.nil_append]
    exact lex_id kw_subgraph (by decide) <| lex_sp <| lex_id (cluster_idOk c s) (by decide) <| lex_lbrace <| lex_nl <|
      lex_id kw_compound (by decide) <| lex_eq <| lex_id kw_true (by decide) <| lex_semi <| lex_nl <|
      lex_id kw_graph (by decide) <| lex_sp <| lex_lbrack <| lex_attrs _ (styleAttrs_ok c hlab s) <| lex_rbrack <|
      lex_semi <| lex_nl h
  | .edge a b none none => by
    unfold itemChars
    simpa [edgeAttrChars, itemToks] using lex_edge_ends c a b (by decide) (lex_semi (lex_nl h))
  | .edge a b none (some tl) => by
    unfold itemChars
    simpa [edgeAttrChars, itemToks] using lex_edge_ends c a b (by decide) <| lex_sp <| lex_lbrack <|
      lex_cluster_attr c kw_ltail tl (by decide) <| lex_rbrack <| lex_semi <| lex_nl h
  | .edge a b (some hd) none => by
    unfold itemChars
    simpa [edgeAttrChars, itemToks] using lex_edge_ends c a b (by decide) <| lex_sp <| lex_lbrack <|
      lex_cluster_attr c kw_lhead hd (by decide) <| lex_rbrack <| lex_semi <| lex_nl h
  | .edge a b (some hd) (some tl) => by
    unfold itemChars
    simpa [edgeAttrChars, itemToks] using lex_edge_ends c a b (by decide) <| lex_sp <| lex_lbrack <|
      lex_cluster_attr c kw_lhead hd (by decide) <| lex_sp <| lex_cluster_attr c kw_ltail tl (by decide) <|
      lex_rbrack <| lex_semi <| lex_nl h

theorem lex_items (c : RenderCtx) (hlab : ∀ j, NoBs (c.label j).toList) {rest : List Char} {ts : List Tok}
    (h : Lexes rest ts) : ∀ items : List Item, Lexes (items.flatMap (itemChars c) ++ rest) (items.flatMap (itemToks c) ++ ts)
  | [] => h
  | it :: items => by
    simpa [List.flatMap_cons, List.append_assoc] using lex_item c hlab (lex_items c hlab h items) it

set_option linter.unusedVariables false in
/-- C20: for labels without backslash, `dot_format()`'s text lexes (DOT rules) into exactly the intended tokens -/
theorem render_lexes (c : RenderCtx) (items : List Item)
    (hlab : ∀ j, ∀ ch ∈ (c.label j).toList, ch ≠ '\\') (hw : 0 < c.w) :
    lexString (render c items) = some (docToks c items) := by
  show Lexes (render c items).toList (docToks c items)
  rw [render_toList]
  unfold docChars
  simp only [docToks, List.cons_append, List.nil_append]
  exact lex_id kw_digraph (by decide) <| lex_sp <| lex_id kw_asynciojobs (by decide) <| lex_lbrace <| lex_nl <|
    lex_id kw_compound (by decide) <| lex_eq <| lex_id kw_true (by decide) <| lex_semi <| lex_nl <|
    lex_id kw_graph (by decide) <| lex_sp <| lex_lbrack <| lex_rbrack <| lex_semi <| lex_nl <|
    lex_items c hlab (lex_rbrace (lex_nl lexes_nil)) items

end AJ.Proofs.C20Lex
