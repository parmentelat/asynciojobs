/-
  What one step of layer B does to the shutdown part of the state: to the task running `co_shutdown()` of a job
  (`hph`, `hcreq`, `hcarrived`, `hcalls`) and to the broadcast of a scheduler (`bc`, `didSd`, `sdValue`,
  `hdeadline`, `tsd`).
-/
import AJ.Proofs.StepFields
namespace AJ.Full
open AJ.Run

/-- `co_shutdown()` of `s` gets past its guard `_did_shutdown`: called by `co_run` of `s` when its `_tidy_tasks`
    returns (`inline`), or at the first step of the task the enclosing scheduler created for it (`relay`) -/
def BroadcastBy (c : Cfg) (st : StB) (e : EvB) (s : Nat) : Who → Prop
  | .inline => ∃ p x, e = .tidyReturn s p ∧ st.pcB s = .tidy x ∧ liveChildren c st.a s = []
  | .relay => e = .hStep s ∧ 0 < s ∧ s < c.n ∧ c.isSched s = true ∧ st.hph s = .hactive

/-- the ways in which the task running `co_shutdown()` of `k` ends: `hp` is its last state, `cr` tells whether a
    `cancel()` is left standing -/
inductive HandlerEnds (c : Cfg) (st : StB) (e : EvB) (k : Nat) (hp : Hph) (cr : Bool) : Prop
  | atomic (atomic : c.isSched k = false) (was : st.hph k = .hactive) (ev : e = .hEnd k ∨ e = .hCancelAck k)
      (hph : hp = (if st.hcreq k then .hcancelled else .hdone)) (hcreq : cr = false)
  | relaySkips (ev : e = .hStep k) (sched : c.isSched k = true) (was : st.hph k = .hactive)
      (didSd : st.didSd k = true) (hph : hp = .hdone) (hcreq : cr = st.hcreq k)
  | relayWaitReturns (p : Nat) (ev : e = .sdWaitReturn k p) (bc : st.bc k = .bwait .relay) (hph : hp = .hdone)
      (hcreq : cr = st.hcreq k)
  | relayTidyReturns (p : Nat) (ev : e = .sdTidyReturn k p) (bc : st.bc k = .btidy .relay)
      (delivered : hcancelPending st k = false) (hph : hp = (if st.hcarrived k then .hcancelled else .hdone))
      (hcreq : cr = false)

theorem HandlerEnds.final {c : Cfg} {st : StB} {e : EvB} {k : Nat} {hp : Hph} {cr : Bool}
    (h : HandlerEnds c st e k hp cr) : hp = .hdone ∨ hp = .hcancelled := by
  match h with
  | .atomic (hph := h1) .. | .relayTidyReturns (hph := h1) .. => rw [h1]; split <;> simp
  | .relaySkips (hph := h1) .. | .relayWaitReturns (hph := h1) .. => exact .inl h1

theorem HandlerEnds.cancelled {c : Cfg} {st : StB} {e : EvB} {k : Nat} {cr : Bool}
    (h : HandlerEnds c st e k .hcancelled cr) : st.hcreq k = true ∨ st.hcarrived k = true := by
  match h with
  | .atomic (hph := h1) .. | .relayTidyReturns (hph := h1) .. => split at h1 <;> simp_all
  | .relaySkips (hph := h1) .. | .relayWaitReturns (hph := h1) .. => cases h1

theorem HandlerEnds.standing {c : Cfg} {st : StB} {e : EvB} {k : Nat} {hp : Hph} {cr : Bool}
    (h : HandlerEnds c st e k hp cr) (hc : st.hcreq k = false) : cr = false := by
  match h with
  | .atomic (hcreq := h1) .. | .relayTidyReturns (hcreq := h1) .. => exact h1
  | .relaySkips (hcreq := h1) .. | .relayWaitReturns (hcreq := h1) .. => exact h1.trans hc

theorem HandlerEnds.honoured {c : Cfg} {st : StB} {e : EvB} {k : Nat} {hp : Hph} {cr : Bool}
    (h : HandlerEnds c st e k hp cr) (hc : st.hcreq k = true) : hp = .hcancelled ∨ cr = true := by
  match h with
  | .atomic (hph := h1) .. => simp [h1, hc]
  | .relaySkips (hcreq := h1) .. | .relayWaitReturns (hcreq := h1) .. => exact .inr (h1.trans hc)
  | .relayTidyReturns (delivered := hp') (hph := h1) .. =>
    have : st.hcarrived k = true := by simpa [hcancelPending, hc] using hp'
    simp [h1, this]

/-- why the bounded wait of the broadcast of `s` (made by `w`) is given up: it expires with handlers still pending, or
    a `CancelledError` is delivered into it -/
inductive GivenUp (c : Cfg) (st : StB) (e : EvB) (st' : StB) (s : Nat) (w : Who) : Prop
  | expires (ev : e = .sdTimeoutFire s) (was : st.bc s = .bwait w) (pending : activeHandlers c st s ≠ [])
      (due : expired (st.hdeadline s) st.a.now = true)
  | runCancelled (ev : e = .cancelArrive s) (who : w = .inline) (pc : ∃ x, st.pcB s = .shut x)
      (carrived : st'.carrived s = true)
  | relayCancelled (ev : e = .hCancelArrive s) (who : w = .relay) (was : st.bc s = .bwait .relay)
      (hcarrived : st'.hcarrived s = true)

/-- what one step does to the task running `co_shutdown()` of job `k` -/
inductive HphStep (c : Cfg) (st : StB) (e : EvB) (st' : StB) (k : Nat) : Prop
  | same (hph : st'.hph k = st.hph k) (hcreq : st'.hcreq k = st.hcreq k)
      (hcarrived : st'.hcarrived k = st.hcarrived k) (hcalls : st'.hcalls k = st.hcalls k)
  | created (s : Nat) (w : Who) (child : k ∈ c.children s) (by_ : BroadcastBy c st e s w) (didSd : st.didSd s = false)
      (hph : st'.hph k = .hactive) (hcreq : st'.hcreq k = false) (hcarrived : st'.hcarrived k = st.hcarrived k)
      (hcalls : st'.hcalls k = st.hcalls k + 1)
  /-- its scheduler gives up waiting for it and calls `cancel()` on it -/
  | cancelled (s : Nat) (w : Who) (child : k ∈ c.children s) (was : st.hph k = .hactive) (bc : st'.bc s = .btidy w)
      (hph : st'.hph k = .hactive) (hcreq : st'.hcreq k = true) (hcarrived : st'.hcarrived k = st.hcarrived k)
      (hcalls : st'.hcalls k = st.hcalls k)
  /-- the `CancelledError` is delivered into it (a relay: the handler of an atomic job is cancelled in one step) -/
  | cancelArrives (ev : e = .hCancelArrive k) (sched : c.isSched k = true) (was : st.hph k = .hactive)
      (creqWas : st.hcreq k = true) (carrivedWas : st.hcarrived k = false) (bc : st'.bc k = .btidy .relay)
      (hph : st'.hph k = .hactive) (hcreq : st'.hcreq k = true) (hcarrived : st'.hcarrived k = true)
      (hcalls : st'.hcalls k = st.hcalls k)
  | ends (by_ : HandlerEnds c st e k (st'.hph k) (st'.hcreq k)) (hcarrived : st'.hcarrived k = st.hcarrived k)
      (hcalls : st'.hcalls k = st.hcalls k)

theorem hph_cases {c : Cfg} {st st' : StB} {e : EvB} (h : StepB c st e st') (k : Nat) : HphStep c st e st' k := by
  cases h
  case grantJob | bodyEnd | cancelAck | waitReturn | reactGo | tick | extCancel | cancelLoop | cancelTidy
      | cancelShutTidy | reactCritical | reactSuccess | reactTimeout | orchFail | timeoutFire | tidyFinish
      | sdWaitInline | sdTidyInline =>
    exact .same rfl rfl rfl rfl
  case runBegin | grantSched => rw [beginB_eq]; exact .same rfl rfl rfl rfl
  case tidyShut s p x hpc hlive hcp hsd =>
    by_cases hk : k ∈ c.children s
    · exact .created s .inline hk ⟨p, x, rfl, hpc, hlive⟩ hsd (if_pos hk) (if_pos hk) rfl (if_pos hk)
    · exact .same (if_neg hk) (if_neg hk) rfl (if_neg hk)
  case hStep s hs0 hsn hs hh hra hsd =>
    by_cases hk : k ∈ c.children s
    · exact .created s .relay hk ⟨rfl, hs0, hsn, hs, hh⟩ hsd (if_pos hk) (if_pos hk) rfl (if_pos hk)
    · exact .same (if_neg hk) (if_neg hk) rfl (if_neg hk)
  case cancelShut s x hsn hs hph hcr hca hpc | sdTimeoutInline s x hbc hact hexp hcp hhp hpc
      | sdTimeoutOther s w hbc hact hexp hcp hhp hno =>
    by_cases hk : k ∈ activeHandlers c st s
    · have hk' := mem_activeHandlers.1 hk
      exact .cancelled s _ hk'.1 hk'.2 (setAt_self ..) hk'.2 (by simp [hk]) rfl rfl
    · exact .same rfl (by simp [hk]) rfl rfl
  case hCancelWait s hs0 hsn hs hh hcr hca hbc =>
    by_cases hks : k = s
    · subst hks
      exact .cancelArrives rfl hs hh hcr hca (setAt_self ..) hh (by simp [hcr]) (setAt_self ..) rfl
    · by_cases hk : k ∈ activeHandlers c st s
      · have hk' := mem_activeHandlers.1 hk
        exact .cancelled s _ hk'.1 hk'.2 (setAt_self ..) hk'.2 (by simp [hk]) (setAt_of_ne _ _ hks) rfl
      · exact .same rfl (by simp [hk]) (setAt_of_ne _ _ hks) rfl
  case hCancelTidy s hs0 hsn hs hh hcr hca hbc =>
    by_cases hks : k = s
    · subst hks
      exact .cancelArrives rfl hs hh hcr hca hbc hh hcr (setAt_self ..) rfl
    · exact .same rfl rfl (setAt_of_ne _ _ hks) rfl
  case hEnd j hj0 hjn hs hh hcr =>
    by_cases hkj : k = j
    · subst hkj
      exact .ends (.atomic hs hh (.inl rfl) (by simp [hcr]) hcr) rfl rfl
    · exact .same (setAt_of_ne _ _ hkj) rfl rfl rfl
  case hCancelAck j hj0 hjn hs hh hcr =>
    by_cases hkj : k = j
    · subst hkj
      exact .ends (.atomic hs hh (.inr rfl) (by simp [hcr]) (setAt_self ..)) rfl rfl
    · exact .same (setAt_of_ne _ _ hkj) (setAt_of_ne _ _ hkj) rfl rfl
  case hStepDone j hj0 hjn hs hh hra hsd =>
    by_cases hkj : k = j
    · subst hkj
      exact .ends (.relaySkips rfl hs hh hsd (setAt_self ..) rfl) rfl rfl
    · exact .same (setAt_of_ne _ _ hkj) rfl rfl rfl
  case sdWaitRelay s p hact hcp hhp hbc =>
    by_cases hks : k = s
    · subst hks
      exact .ends (.relayWaitReturns p rfl hbc (setAt_self ..) rfl) rfl rfl
    · exact .same (setAt_of_ne _ _ hks) rfl rfl rfl
  case sdTidyRelay s p hact hcp hhp hbc =>
    by_cases hks : k = s
    · subst hks
      exact .ends (.relayTidyReturns p rfl hbc hhp (setAt_self ..) (setAt_self ..)) rfl rfl
    · exact .same (setAt_of_ne _ _ hks) (setAt_of_ne _ _ hks) rfl rfl

theorem hph_moves {c : Cfg} {st st' : StB} {e : EvB} (h : StepB c st e st') (k : Nat) :
    st'.hph k = st.hph k ∨ st'.hph k = .hactive ∨ HandlerEnds c st e k (st'.hph k) (st'.hcreq k) :=
  match hph_cases h k with
  | .same (hph := h1) .. => .inl h1
  | .created (hph := h1) .. | .cancelled (hph := h1) .. | .cancelArrives (hph := h1) .. => .inr (.inl h1)
  | .ends (by_ := he) .. => .inr (.inr he)

/-- what one step does to the shutdown broadcast of scheduler `s` -/
inductive BcStep (c : Cfg) (st : StB) (e : EvB) (st' : StB) (s : Nat) : Prop
  /-- nothing, but that a `co_shutdown()` finding `_did_shutdown` set returns `None` at once -/
  | same (bc : st'.bc s = st.bc s) (didSd : st'.didSd s = st.didSd s) (hdeadline : st'.hdeadline s = st.hdeadline s)
      (tsd : st'.tsd s = st.tsd s)
      (sdValue : st'.sdValue s = st.sdValue s ∨ st.didSd s = true ∧ st'.sdValue s = none)
  | begins (w : Who) (by_ : BroadcastBy c st e s w) (didSdWas : st.didSd s = false) (didSd : st'.didSd s = true)
      (bc : st'.bc s = .bwait w) (hdeadline : st'.hdeadline s = (c.sdTimeout s).map (st.a.now + ·))
      (tsd : st'.tsd s = st.a.now) (sdValue : st'.sdValue s = st.sdValue s)
      (handlers : ∀ k ∈ c.children s, st'.hph k = .hactive ∧ st'.hcreq k = false ∧
        st'.hcarrived k = st.hcarrived k ∧ st'.hcalls k = st.hcalls k + 1)
  | givenUp (w : Who) (bc : st'.bc s = .btidy w) (didSd : st'.didSd s = st.didSd s)
      (hdeadline : st'.hdeadline s = st.hdeadline s) (tsd : st'.tsd s = st.tsd s)
      (sdValue : st'.sdValue s = st.sdValue s)
      (handlers : ∀ k ∈ c.children s, st.hph k = .hactive → st'.hcreq k = true) (by_ : GivenUp c st e st' s w)
  | ends (p : Nat) (w : Who) (bc : st'.bc s = .bover) (didSd : st'.didSd s = st.didSd s)
      (hdeadline : st'.hdeadline s = st.hdeadline s) (tsd : st'.tsd s = st.tsd s)
      (quiet : activeHandlers c st s = [])
      (value : (e = .sdWaitReturn s p ∧ st.bc s = .bwait w ∧ st'.sdValue s = some true) ∨
        (e = .sdTidyReturn s p ∧ st.bc s = .btidy w ∧ st'.sdValue s = some false))

theorem bc_cases {c : Cfg} {st st' : StB} {e : EvB} (h : StepB c st e st') (s : Nat) : BcStep c st e st' s := by
  cases h
  case grantJob | bodyEnd | cancelAck | waitReturn | reactGo | tick | extCancel | cancelLoop | cancelTidy
      | cancelShutTidy | reactCritical | reactSuccess | reactTimeout | orchFail | timeoutFire | hEnd | hCancelAck
      | hCancelTidy =>
    exact .same rfl rfl rfl rfl (.inl rfl)
  case runBegin | grantSched => rw [beginB_eq]; exact .same rfl rfl rfl rfl (.inl rfl)
  case tidyFinish s0 p x r a' hpc hlive hcp hsd hv ha | hStepDone s0 hj0 hjn hs hh hra hsd =>
    by_cases hs : s = s0
    · subst hs; exact .same rfl rfl rfl rfl (.inr ⟨hsd, setAt_self ..⟩)
    · exact .same rfl rfl rfl rfl (.inl (setAt_of_ne _ _ hs))
  case tidyShut s0 p x hpc hlive hcp hsd =>
    by_cases hs : s = s0
    · subst hs
      exact .begins .inline ⟨p, x, rfl, hpc, hlive⟩ hsd (setAt_self ..) (setAt_self ..) (setAt_self ..)
        (setAt_self ..) rfl fun k hk => by simp [broadcast, hk]
    · exact .same (setAt_of_ne _ _ hs) (setAt_of_ne _ _ hs) (setAt_of_ne _ _ hs) (setAt_of_ne _ _ hs) (.inl rfl)
  case hStep s0 hs0 hsn hss hh hra hsd =>
    by_cases hs : s = s0
    · subst hs
      exact .begins .relay ⟨rfl, hs0, hsn, hss, hh⟩ hsd (setAt_self ..) (setAt_self ..) (setAt_self ..)
        (setAt_self ..) rfl fun k hk => by simp [broadcast, hk]
    · exact .same (setAt_of_ne _ _ hs) (setAt_of_ne _ _ hs) (setAt_of_ne _ _ hs) (setAt_of_ne _ _ hs) (.inl rfl)
  case cancelShut s0 x hsn hss hph hcr hca hpc =>
    by_cases hs : s = s0
    · subst hs
      exact .givenUp .inline (setAt_self ..) rfl rfl rfl rfl
        (fun k hk hh => by simp [activeHandlers, hk, hh]) (.runCancelled rfl rfl ⟨x, hpc⟩ (setAt_self ..))
    · exact .same (setAt_of_ne _ _ hs) rfl rfl rfl (.inl rfl)
  case sdTimeoutInline s0 x hbc hact hexp hcp hhp hpc | sdTimeoutOther s0 w hbc hact hexp hcp hhp hno =>
    by_cases hs : s = s0
    · subst hs
      exact .givenUp _ (setAt_self ..) rfl rfl rfl rfl
        (fun k hk hh => by simp [activeHandlers, hk, hh]) (.expires rfl hbc hact hexp)
    · exact .same (setAt_of_ne _ _ hs) rfl rfl rfl (.inl rfl)
  case hCancelWait s0 hs0 hsn hss hh hcr hca hbc =>
    by_cases hs : s = s0
    · subst hs
      exact .givenUp .relay (setAt_self ..) rfl rfl rfl rfl
        (fun k hk hh => by simp [activeHandlers, hk, hh]) (.relayCancelled rfl rfl hbc (setAt_self ..))
    · exact .same (setAt_of_ne _ _ hs) rfl rfl rfl (.inl rfl)
  case sdWaitInline s0 p x r a' hact hcp hhp hbc hpc hv ha | sdWaitRelay s0 p hact hcp hhp hbc =>
    by_cases hs : s = s0
    · subst hs
      exact .ends p _ (setAt_self ..) rfl rfl rfl hact (.inl ⟨rfl, hbc, setAt_self ..⟩)
    · exact .same (setAt_of_ne _ _ hs) rfl rfl rfl (.inl (setAt_of_ne _ _ hs))
  case sdTidyInline s0 p x r a' hact hcp hhp hbc hpc hv ha | sdTidyRelay s0 p hact hcp hhp hbc =>
    by_cases hs : s = s0
    · subst hs
      exact .ends p _ (setAt_self ..) rfl rfl rfl hact (.inr ⟨rfl, hbc, setAt_self ..⟩)
    · exact .same (setAt_of_ne _ _ hs) rfl rfl rfl (.inl (setAt_of_ne _ _ hs))

/-- what one step does to the value of `co_shutdown()` of `s`: `True` when its bounded wait returns, `False` when its
    clean-up does, both with every handler finished; `None` from a call that finds `_did_shutdown` set -/
inductive SdValueStep (c : Cfg) (st : StB) (e : EvB) (st' : StB) (s : Nat) : Prop
  | same (sdValue : st'.sdValue s = st.sdValue s)
  | none (sdValue : st'.sdValue s = none)
  | waitReturns (p : Nat) (w : Who) (ev : e = .sdWaitReturn s p) (was : st.bc s = .bwait w)
      (quiet : activeHandlers c st s = []) (sdValue : st'.sdValue s = some true) (bc : st'.bc s = .bover)
  | tidyReturns (p : Nat) (w : Who) (ev : e = .sdTidyReturn s p) (was : st.bc s = .btidy w)
      (quiet : activeHandlers c st s = []) (sdValue : st'.sdValue s = some false) (bc : st'.bc s = .bover)

theorem sdValue_cases {c : Cfg} {st st' : StB} {e : EvB} (h : StepB c st e st') (s : Nat) :
    SdValueStep c st e st' s :=
  match bc_cases h s with
  | .same (sdValue := .inl h1) .. | .begins (sdValue := h1) .. | .givenUp (sdValue := h1) .. => .same h1
  | .same (sdValue := .inr ⟨_, h1⟩) .. => .none h1
  | .ends (p := p) (w := w) (bc := hb) (quiet := hact) (value := .inl ⟨h1, h2, h3⟩) .. =>
    .waitReturns p w h1 h2 hact h3 hb
  | .ends (p := p) (w := w) (bc := hb) (quiet := hact) (value := .inr ⟨h1, h2, h3⟩) .. =>
    .tidyReturns p w h1 h2 hact h3 hb

theorem hcarrived_cases {c : Cfg} {st st' : StB} {e : EvB} (h : StepB c st e st') (k : Nat) :
    st'.hcarrived k = st.hcarrived k ∨
    (e = .hCancelArrive k ∧ st.hcarrived k = false ∧ st'.hcarrived k = true ∧ st'.bc k = .btidy .relay ∧
      st'.hph k = .hactive) :=
  match hph_cases h k with
  | .same (hcarrived := h1) .. | .created (hcarrived := h1) .. | .cancelled (hcarrived := h1) ..
  | .ends (hcarrived := h1) .. => .inl h1
  | .cancelArrives (ev := h1) (carrivedWas := h2) (bc := h3) (hph := h4) (hcarrived := h5) .. =>
    .inr ⟨h1, h2, h5, h3, h4⟩

theorem didSd_mono {c : Cfg} {st st' : StB} {e : EvB} (h : StepB c st e st') {s : Nat} (hd : st.didSd s = true) :
    st'.didSd s = true := by
  match bc_cases h s with
  | .same (didSd := e) .. | .givenUp (didSd := e) .. | .ends (didSd := e) .. => exact e ▸ hd
  | .begins (didSd := e) .. => exact e

theorem didSd_later {c : Cfg} {st st' : StB} {more : List EvB} (h' : acceptB c st more = some st') {s : Nat}
    (hd : st.didSd s = true) : st'.didSd s = true :=
  (isRunB c).invariant (P := fun st1 => st1.didSd s = true) h' hd fun _ _ _ hd1 hs => didSd_mono (.of_stepB hs) hd1

theorem hcalls_cases {c : Cfg} {st st' : StB} {e : EvB} (h : StepB c st e st') (k : Nat) :
    st'.hcalls k = st.hcalls k ∨
    ∃ s w, k ∈ c.children s ∧ BroadcastBy c st e s w ∧ st.didSd s = false ∧ st'.hcalls k = st.hcalls k + 1 :=
  match hph_cases h k with
  | .same (hcalls := h1) .. | .cancelled (hcalls := h1) .. | .cancelArrives (hcalls := h1) ..
  | .ends (hcalls := h1) .. => .inl h1
  | .created (s := s) (w := w) (child := hk) (by_ := hby) (didSd := hd) (hcalls := h1) .. =>
    .inr ⟨s, w, hk, hby, hd, h1⟩

theorem hcalls_guarded {c : Cfg} {st st' : StB} {e : EvB} (h : StepB c st e st') {s : Nat} (hd : st.didSd s = true) :
    ∀ k ∈ c.children s, st'.hcalls k = st.hcalls k := by
  intro k hk
  rcases hcalls_cases h k with h1 | ⟨s', _, hk', _, hd', _⟩
  · exact h1
  · rw [children_inj hk hk', hd'] at hd; cases hd

theorem hcarrived_mono {c : Cfg} {st st' : StB} {e : EvB} (h : StepB c st e st') {k : Nat}
    (hc : st.hcarrived k = true) : st'.hcarrived k = true := by
  rcases hcarrived_cases h k with h1 | h1
  · exact h1 ▸ hc
  · exact h1.2.2.1

/-- every event but `tick` is the move of something unfinished -/
theorem alive_of_step {c : Cfg} {st st' : StB} {e : EvB} (h : StepB c st e st') :
    (∃ d, e = .tick d) ∨ st.a.pc 0 = .notBegun ∨ (∃ j, (st.a.ph j).live = true) ∨
    (∃ s, st.pcB s = .loop ∨ (st.pcB s).exiting = true) ∨ (∃ j, st.hph j = .hactive) ∨
    (∃ s, (st.bc s).isWait = true ∨ (st.bc s).isTidy = true) := by
  cases h
  case tick d _ _ _ _ _ => exact Or.inl ⟨d, rfl⟩
  case runBegin ha => exact Or.inr (Or.inl ha.runBegin_inv.2)
  case grantJob j _ ha _ | grantSched j _ ha _ =>
    exact Or.inr (Or.inr (Or.inl ⟨j, by simp [ha.grant_inv.2.2.1, Ph.live]⟩))
  case bodyEnd j _ _ ha => exact Or.inr (Or.inr (Or.inl ⟨j, by simp [ha.bodyEnd_inv.2.2.2.1, Ph.live]⟩))
  case cancelAck j _ ha => cases ha <;> exact Or.inr (Or.inr (Or.inl ⟨j, by simp [*, Ph.live]⟩))
  case extCancel ha => cases ha; exact Or.inr (Or.inr (Or.inl ⟨0, by simp [*, Ph.live]⟩))
  case cancelLoop s _ _ _ hph _ _ _ _ | cancelTidy s _ _ _ hph _ _ _ | cancelShut s _ _ _ hph _ _ _
      | cancelShutTidy s _ _ _ hph _ _ _ =>
    exact Or.inr (Or.inr (Or.inl ⟨s, by simp [hph, Ph.live]⟩))
  case waitReturn s _ hpc _ _ | reactCritical s _ _ hpc _ _ _ _ | reactSuccess s _ _ hpc _ _ _ _ _
      | reactTimeout s _ _ hpc _ _ _ _ _ _ | reactGo s _ _ hpc _ _ _ _ _ _ | orchFail s _ _ hpc _ _ _
      | timeoutFire s _ hpc _ _ _ _ _ =>
    exact Or.inr (Or.inr (Or.inr (Or.inl ⟨s, Or.inl hpc⟩)))
  case tidyFinish s _ _ _ _ hpc _ _ _ _ _ | tidyShut s _ _ hpc _ _ _ =>
    exact Or.inr (Or.inr (Or.inr (Or.inl ⟨s, Or.inr (by simp [hpc, PcB.exiting])⟩)))
  case hStepDone j _ _ _ hh _ _ | hStep j _ _ _ hh _ _ | hEnd j _ _ _ hh _ | hCancelAck j _ _ _ hh _
      | hCancelWait j _ _ _ hh _ _ _ | hCancelTidy j _ _ _ hh _ _ _ =>
    exact Or.inr (Or.inr (Or.inr (Or.inr (Or.inl ⟨j, hh⟩))))
  case sdWaitInline s _ _ _ _ _ _ _ hbc _ _ _ | sdWaitRelay s _ _ _ _ hbc | sdTimeoutInline s _ hbc _ _ _ _ _
      | sdTimeoutOther s _ hbc _ _ _ _ _ =>
    exact Or.inr (Or.inr (Or.inr (Or.inr (Or.inr ⟨s, Or.inl (by simp [hbc, Bc.isWait])⟩))))
  case sdTidyInline s _ _ _ _ _ _ _ hbc _ _ _ | sdTidyRelay s _ _ _ _ hbc =>
    exact Or.inr (Or.inr (Or.inr (Or.inr (Or.inr ⟨s, Or.inr (by simp [hbc, Bc.isTidy])⟩))))

end AJ.Full
