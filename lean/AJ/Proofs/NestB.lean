/-
  C10 (d), "a nested scheduler adds no latency": time may pass (`tick`) only in quiet states, and in a quiet state
  * no job whose requirements have all finished is still waiting to be started (C12: `eager_at_quiescence`), in
    particular the entry jobs of a nested scheduler that has begun, and the jobs that require one that is over;
  * a nested scheduler all of whose jobs have finished, and whose jobs' shutdown handlers are not pending, is over
    (`no_end_latency`).
-/
import AJ.Proofs.ProgB
namespace AJ.Proofs.NestB
open AJ.Run AJ.Full AJ.Proofs.CoreB AJ.Proofs.ProgB

/-- the body (or nested run) of the job is over: it returned, raised or was cancelled -/
def Ph.finished : Ph → Bool
  | .done _ => true
  | .cancelled => true
  | _ => false

/-- C10 (d): no latency at the end of a nested run: in a reachable state in which time may pass, a scheduler whose run
    has begun, whose jobs have all finished, and none of whose jobs has a shutdown handler pending, is over -/
theorem no_end_latency (c : Cfg) (hwf : c.wf = true) (evs : List EvB) (st : StB)
    (h : acceptB c StB.init evs = some st) (hq : quietB c st = true)
    (s : Nat) (hs : s < c.n) (hsch : c.isSched s = true) (hb : st.pcB s ≠ .notBegun)
    (hfin : ∀ k, k ∈ c.children s → Ph.finished (st.a.ph k) = true)
    (hh : ∀ k, k ∈ c.children s → st.hph k ≠ .hactive) :
    st.pcB s = .over := by
  have hB := invB_reach c hwf evs st h
  have hQ := (quietB_iff c st).1 hq s hs
  -- otherwise the run, being quiet, waits for one of its jobs, or for a handler
  cases hpc : st.pcB s with
  | notBegun => exact absurd hpc hb
  | over => rfl
  | loop =>
    -- for a job it has not been told the end of: finished, that job would be handed over now
    obtain ⟨hrx, hds⟩ := quiet_loop hQ hsch hpc
    obtain ⟨k, hk, hd⟩ := loop_undelivered hB (invP_reach c hwf evs st h).notStuck hpc hrx
    have hf := hfin k hk
    have : k ∈ doneSet c st.a s :=
      Run.mem_doneSet.2 ⟨hk, by cases hph : st.a.ph k <;> simp [hph, Ph.finished, Ph.isDone] at hf ⊢, hd⟩
    rw [hds] at this; cases this
  | tidy x =>
    obtain ⟨k, hk, hl⟩ := quiet_tidy hQ hsch hpc
    have hf := hfin k hk
    cases hph : st.a.ph k <;> simp [hph, Ph.finished, Ph.live] at hf hl
  | shut x => exact (quiet_shutting hB hQ hsch (.inl hpc)).elim fun k ⟨hk, hk'⟩ => absurd hk' (hh k hk)
  | shutTidy x => exact (quiet_shutting hB hQ hsch (.inr hpc)).elim fun k ⟨hk, hk'⟩ => absurd hk' (hh k hk)

theorem finished_of_over (c : Cfg) (hwf : c.wf = true) (evs : List EvB) (st : StB)
    (h : acceptB c StB.init evs = some st) (s : Nat) (hsch : c.isSched s = true) (ho : st.pcB s = .over) :
    Ph.finished (st.a.ph s) = true := by
  have hA := invA_of_reachB c hwf evs st h
  have hpa : st.a.pc s = .over := ((invB_reach c hwf evs st h).pcOver s).1 ho
  cases hph : st.a.ph s with
  | done r => rfl
  | cancelled => rfl
  | idle => have := hA.notBegun s hsch (Or.inl hph); rw [hpa] at this; cases this
  | queued => have := hA.notBegun s hsch (Or.inr hph); rw [hpa] at this; cases this
  | running => exact absurd ho ((invP_reach c hwf evs st h).runPc s hsch hph).2

set_option linter.unusedVariables false in
/-- C10 (d): a nested scheduler whose run is over is, seen from its parent, a finished job -/
theorem over_is_finished (c : Cfg) (hwf : c.wf = true) (evs : List EvB) (st : StB)
    (h : acceptB c StB.init evs = some st) (s : Nat) (hs : s < c.n) (hs0 : s ≠ 0) (hsch : c.isSched s = true)
    (ho : st.pcB s = .over) :
    Ph.finished (st.a.ph s) = true :=
  finished_of_over c hwf evs st h s hsch ho

/-- C10 (d): no latency at the beginning of a nested run: in a reachable state in which time may pass, a nested
    scheduler without window whose run has begun and is in its main loop has no entry job (a job without
    requirement) still waiting to be started -/
theorem no_begin_latency (c : Cfg) (hwf : c.wf = true) (evs : List EvB) (st : StB)
    (h : acceptB c StB.init evs = some st) (hq : quietB c st = true)
    (s : Nat) (hs : s < c.n) (hsch : c.isSched s = true) (hl : st.pcB s = .loop) (hw : c.window s = 0)
    (k : Nat) (hk : k ∈ c.children s) (hreq : c.req k = []) :
    st.a.ph k ≠ .idle ∧ st.a.ph k ≠ .queued := by
  have hA := invA_of_reachB c hwf evs st h
  refine ⟨fun hi => ?_, none_queued hA ((quietB_iff c st).1 hq) hs hsch (fun h => absurd hw h) k hk⟩
  obtain ⟨r, hr, _⟩ := hA.eager s (((invB_reach c hwf evs st h).pcLoop s).1 hl) k hk hi
  rw [hreq] at hr; cases hr

/- Top-level scheduler `0` with a nested scheduler `1` (one job, `2`) and an atomic job `3`, still executing when the
   run of `1` has ended and the top-level run has reacted to it (`exEvs`); at `exLate`, three events earlier, the inline
   shutdown of `1` has not returned. -/

def exCfg : Cfg :=
  { n := 4, parent := fun j => if j = 2 then 1 else 0, isSched := fun j => j = 0 || j = 1, req := fun _ => [],
    critical := fun _ => false, forever := fun _ => false, window := fun _ => 0, timeout := fun _ => none,
    sdTimeout := fun _ => none, topPure := true }

def exBegin : List EvB := [.runBegin, .grant 1, .grant 3, .grant 2]

def exLate : List EvB := exBegin ++ [.bodyEnd 2 true, .waitReturn 1, .react 1, .tidyReturn 1 0, .hEnd 2]

def exEvs : List EvB := exLate ++ [.sdWaitReturn 1 0, .waitReturn 0, .react 0]

/-- `no_end_latency` is not vacuous -/
example : exCfg.wf = true ∧ exCfg.isSched 1 = true ∧ exCfg.children 1 = [2] ∧
    (acceptB exCfg StB.init exEvs).map (fun st =>
      (quietB exCfg st, decide (st.pcB 1 ≠ .notBegun),
       (exCfg.children 1).all (fun k => Ph.finished (st.a.ph k)),
       (exCfg.children 1).all (fun k => decide (st.hph k ≠ .hactive)),
       decide (st.pcB 1 = .over), Ph.finished (st.a.ph 1)))
      = some (true, true, true, true, true, true) ∧
    (acceptB exCfg StB.init exEvs).map (fun st => (st.a.ph 3, st.pcB 0)) = some (.running, .loop) := by
  decide

/-- quietness is needed: the same hypotheses without it, the run of `1` still inside its shutdown -/
example : (acceptB exCfg StB.init exLate).map (fun st =>
      (quietB exCfg st, decide (st.pcB 1 ≠ .notBegun),
       (exCfg.children 1).all (fun k => Ph.finished (st.a.ph k)),
       (exCfg.children 1).all (fun k => decide (st.hph k ≠ .hactive)), st.pcB 1))
      = some (false, true, true, true, .shut .success) := by
  decide

/-- `no_begin_latency` is not vacuous: a quiet state with the nested run in its main loop, its entry job executing -/
example : (acceptB exCfg StB.init exBegin).map (fun st =>
      (quietB exCfg st, st.pcB 1, exCfg.window 1, exCfg.req 2, st.a.ph 2))
      = some (true, .loop, 0, [], .running) := by
  decide

end AJ.Proofs.NestB
