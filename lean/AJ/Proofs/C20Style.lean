/-
  C20 — the text of the DOT document below the level of items: quoting (`DotStyle.protect`), zero-padded ids and the
  attributes of `job.dot_style()`.  This is all the lexer proofs need to know of the rendering.
-/
import AJ.Spec
namespace AJ.Proofs.C20

/-- labels survive quoting: reading `protect s` back by DOT's rule gives `s`, for every string without
    backslash (quotes, newlines, DOT punctuation, non-ASCII included) -/
theorem quote_roundtrip (s rest : List Char) (h : ∀ c ∈ s, c ≠ '\\') :
    unquoteChars (protectChars s ++ '"' :: rest) = some (s, rest) := by
  induction s with
  | nil => simp [protectChars, unquoteChars]
  | cons c cs ih =>
    have hc : c ≠ '\\' := h c (by simp)
    have ih' := ih (fun d hd => h d (by simp [hd]))
    by_cases hq : c = '"'
    · subst hq
      simp [protectChars, unquoteChars, ih']
    · simp only [protectChars, if_neg hq, List.cons_append]
      -- the catch-all equation of `unquoteChars`; its side conditions: `c` is not `"`, and `c :: …` is not a
      -- backslash followed by `"`
      rw [unquoteChars]
      · simp [ih']
      · intro hh; exact hq hh
      · intro r hh _; exact hc hh

/-- … and the quoted text contains no bare double quote -/
theorem protect_no_bare_quote (s : List Char) (h : ∀ c ∈ s, c ≠ '\\') :
    ∀ pre post, protectChars s = pre ++ '"' :: post → pre.getLast? = some '\\' := by
  have key : ∀ (a : Char) (p : List Char), p.getLast? = some '\\' → (a :: p).getLast? = some '\\' :=
    fun a p h => by rw [List.getLast?_cons, h]; rfl
  induction s with
  | nil => intro pre post hp; simp [protectChars] at hp
  | cons c cs ih =>
    intro pre post hp
    replace ih := ih fun d hd => h d (List.mem_cons_of_mem _ hd)
    unfold protectChars at hp
    split at hp
    · obtain ⟨rfl, h1⟩ | ⟨_, rfl, h1⟩ := List.cons_eq_append_iff.1 hp
      · simp at h1
      · obtain ⟨rfl, h2⟩ | ⟨_, rfl, h2⟩ := List.cons_eq_append_iff.1 h1
        · rfl
        · exact key _ _ (key _ _ (ih _ _ h2))
    · rename_i hq
      obtain ⟨rfl, h1⟩ | ⟨_, rfl, h1⟩ := List.cons_eq_append_iff.1 hp
      · exact absurd (List.cons.inj h1).1.symm hq
      · exact key _ _ (ih _ _ h1)

theorem padId_toList (w k : Nat) :
    (padId w k).toList = List.replicate (w - (toString k).length) '0' ++ Nat.toDigits 10 k := by
  simp only [padId, String.toList_append, String.toList_ofList, Nat.toString_eq_repr, Nat.toList_repr]

theorem padId_val (w k : Nat) : Nat.ofDigitChars 10 (padId w k).toList 0 = k := by
  rw [padId_toList, Nat.ofDigitChars_append, Nat.ofDigitChars_replicate_zero, Nat.mul_zero, Nat.ofDigitChars_ten_toDigits]

theorem padId_inj (w a b : Nat) (h : padId w a = padId w b) : a = b := by
  have := padId_val w a
  rw [h, padId_val] at this
  exact this.symm

/-- flags are rendered as documented: every job and scheduler has exactly one `color` and one `penwidth`
    attribute, `red` / `2` when critical and `black` / `0.5` otherwise; the colour is never left out, so that a nested
    scheduler cannot inherit that of the enclosing cluster -/
theorem style_critical (c : RenderCtx) (j : Nat) :
    (∀ v, ("color", v) ∈ styleAttrs c j ↔ v = if c.t.critical j = true then "red" else "black") ∧
    (∀ v, ("penwidth", v) ∈ styleAttrs c j ↔ v = if c.t.critical j = true then "2" else "0.5") ∧
    ((styleAttrs c j).map Prod.fst).Nodup := by
  cases h : c.t.critical j <;> simp [styleAttrs, h]

/-- the same, one flag value at a time -/
theorem style_color (c : RenderCtx) (j : Nat) :
    (∃ v, ("color", v) ∈ styleAttrs c j) ∧
    (("color", "red") ∈ styleAttrs c j ↔ c.t.critical j = true) ∧
    (("color", "black") ∈ styleAttrs c j ↔ c.t.critical j = false) ∧
    (("penwidth", "2") ∈ styleAttrs c j ↔ c.t.critical j = true) ∧
    (("penwidth", "0.5") ∈ styleAttrs c j ↔ c.t.critical j = false) := by
  obtain ⟨hc, hp, _⟩ := style_critical c j
  refine ⟨⟨_, (hc _).2 rfl⟩, ?_, ?_, ?_, ?_⟩
  · rw [hc]; cases c.t.critical j <;> decide
  · rw [hc]; cases c.t.critical j <;> decide
  · rw [hp]; cases c.t.critical j <;> decide
  · rw [hp]; cases c.t.critical j <;> decide

/-- no colour is ever inherited from an enclosing cluster: the attributes `renderItem` writes in the `graph`
    statement of the cluster of `s` (`styleAttrs c s`) always have a `color` of their own;
    `C20Parse.cluster_color_parsed` says the same of the parsed document -/
theorem cluster_color_explicit (c : RenderCtx) (s : Nat) :
    ∃ v, ("color", v) ∈ styleAttrs c s ∧ v = (if c.t.critical s = true then "red" else "black") := by
  exact ⟨_, ((style_critical c s).1 _).2 rfl, rfl⟩

theorem styleAttrs_mem {c : RenderCtx} {j : Nat} {kv : String × String} (h : kv ∈ styleAttrs c j) :
    kv.1 ∈ ["style", "label", "shape", "color", "penwidth"] ∧
    (kv.2 = ",".intercalate (styleList c j) ∨ kv.2 = c.rid j ++ ": " ++ c.label j ∨
      kv.2 ∈ ["box", "red", "2", "black", "0.5"]) := by
  unfold styleAttrs at h
  rcases List.mem_append.1 h with h | h
  · simp only [List.mem_cons, List.not_mem_nil, or_false] at h
    rcases h with rfl | rfl | rfl <;> simp only [List.mem_cons, true_or, or_true, and_self]
  · split at h <;> simp only [List.mem_cons, List.not_mem_nil, or_false] at h <;> rcases h with rfl | rfl <;>
      simp only [List.mem_cons, true_or, or_true, and_self]

theorem style_shape (c : RenderCtx) (j : Nat) :
    ("style", ",".intercalate (styleList c j)) ∈ styleAttrs c j ∧ ("shape", "box") ∈ styleAttrs c j ∧
    ("dashed" ∈ styleList c j ↔ c.t.forever j = true) ∧
    ("rounded" ∈ styleList c j ↔ c.t.isSched j = false) := by
  refine ⟨by simp [styleAttrs], by simp [styleAttrs], ?_, ?_⟩
  · simp only [styleList]
    cases c.t.isSched j <;> cases c.t.forever j <;> simp
  · simp only [styleList]
    cases c.t.isSched j <;> cases c.t.forever j <;> simp

end AJ.Proofs.C20
