/-
  Layer B: a timeout that does not fire has no effect (C08) — a history in which the run of scheduler `s` never
  leaves its main loop on expiry (neither by `timeoutFire s` nor by a reaction that notices the expiry) is accepted
  unchanged, and leads to the same state, by the configuration in which `s` has no timeout; and conversely for a history
  of that configuration that stays short of the deadline.
-/
import AJ.Proofs.ExitB
import AJ.Proofs.ScopeB
namespace AJ.Proofs.TmoB
open AJ.Run AJ.Full AJ.Proofs.CoreB

def noTimeout (c : Cfg) (s : Nat) : Cfg := { c with timeout := fun k => if k = s then none else c.timeout k }

def eraseDl (s : Nat) (st : StB) : StB := { st with deadline := setAt st.deadline s none }

theorem noTimeout_eq (c : Cfg) (s : Nat) : noTimeout c s = ScopeB.setTimeout c s none := rfl

theorem stepA_noTimeout (c : Cfg) (s : Nat) (a : StA) (e : EvA) : stepA (noTimeout c s) a e = stepA c a e :=
  noTimeout_eq c s ▸ ScopeB.stepA_st c s none a e

theorem stepA_nt_iff {c : Cfg} {s : Nat} {a a' : StA} {e : EvA} : StepA (noTimeout c s) a e a' ↔ StepA c a e a' :=
  noTimeout_eq c s ▸ ScopeB.stepA_st_iff

theorem verdict_nt (c : Cfg) (s : Nat) (st : StB) (k : Nat) (x : Exit) (pick : Nat) :
    verdict (noTimeout c s) (eraseDl s st) k x pick = verdict c st k x pick := by
  cases x <;> rfl

theorem setAt_erase_comm (f : Nat → Option Nat) (s k : Nat) (v : Option Nat) :
    setAt (setAt f s none) k (if k = s then none else v) = setAt (setAt f k v) s none := by
  funext i
  by_cases h1 : i = k <;> by_cases h2 : i = s <;> simp_all [setAt]

theorem eraseDl_deadline (s : Nat) (st : StB) : (eraseDl s st).deadline = setAt st.deadline s none := rfl
theorem children_nt (c : Cfg) (s : Nat) (k : Nat) : (noTimeout c s).children k = c.children k := rfl

theorem beginB_nt (c : Cfg) (s : Nat) (st : StB) (k : Nat) (a' : StA) :
    beginB (noTimeout c s) (eraseDl s st) k a' = eraseDl s (beginB c st k a') := by
  simp only [beginB, children_nt, apply_ite (eraseDl s)]
  congr 1
  simp only [eraseDl, noTimeout, apply_ite (Option.map _), Option.map_none, setAt_erase_comm]

theorem exitLoop_nt (c : Cfg) (s : Nat) (st : StB) (k : Nat) (x : Exit) (a' : StA) :
    exitLoop (noTimeout c s) (eraseDl s st) k x a' = eraseDl s (exitLoop c st k x a') := by
  simp only [exitLoop, eraseDl, ← setAt_erase_comm st.deadline s k none, ite_self]

theorem expired_erase_ne (s k : Nat) (st : StB) (now : Nat) (hk : k ≠ s) :
    expired ((eraseDl s st).deadline k) now = expired (st.deadline k) now := by
  rw [eraseDl_deadline]; simp [setAt, hk]

theorem expired_erase_self (s : Nat) (st : StB) (now : Nat) :
    expired ((eraseDl s st).deadline s) now = false := by
  rw [eraseDl_deadline]; simp [setAt, expired]

theorem expired_erase_false {s k : Nat} {st : StB} {now : Nat} (h : expired (st.deadline k) now = false) :
    expired ((eraseDl s st).deadline k) now = false := by
  by_cases hk : k = s
  · subst hk; exact expired_erase_self ..
  · rw [expired_erase_ne _ _ _ _ hk]; exact h

theorem within_erase {s k : Nat} {st : StB} {now d : Nat} (h : within (st.deadline k) now d = true) :
    within ((eraseDl s st).deadline k) now d = true := by
  rw [eraseDl_deadline]; simp only [setAt]; split
  · rfl
  · exact h

/-- every guard but the expiry tests and the clock's `within` is the same in both configurations up to unfolding
    `noTimeout` / `eraseDl`: the constructors take them back unchanged; a step that passes the expiry test is not a step
    of `s` (`hne`), a step that fails it fails it all the more without deadline, and the clock is less constrained -/
theorem step_sim_rel {c : Cfg} {s : Nat} {st st' : StB} {e : EvB} (h : StepB c st e st')
    (hne : st'.pcB s ≠ .tidy .timeout) : StepB (noTimeout c s) (eraseDl s st) e (eraseDl s st') := by
  cases h
  case runBegin a' ha => rw [← beginB_nt]; exact .runBegin (stepA_nt_iff.2 ha)
  case grantJob j a' ha hs => exact .grantJob (stepA_nt_iff.2 ha) hs
  case grantSched j a' ha hs => rw [← beginB_nt]; exact .grantSched (stepA_nt_iff.2 ha) hs
  case bodyEnd j ok a' ha => exact .bodyEnd (stepA_nt_iff.2 ha)
  case cancelAck j a' ha => exact .cancelAck (stepA_nt_iff.2 ha)
  case cancelLoop k a' hsn hs hph hcr hca hpc ha =>
    rw [← exitLoop_nt]; exact .cancelLoop hsn hs hph hcr hca hpc (stepA_nt_iff.2 ha)
  case cancelTidy k x hsn hs hph hcr hca hpc => exact .cancelTidy hsn hs hph hcr hca hpc
  case cancelShut k x hsn hs hph hcr hca hpc => exact .cancelShut hsn hs hph hcr hca hpc
  case cancelShutTidy k x hsn hs hph hcr hca hpc => exact .cancelShutTidy hsn hs hph hcr hca hpc
  case waitReturn k a' hpc hcp ha => exact .waitReturn hpc hcp (stepA_nt_iff.2 ha)
  case reactCritical k D a' hpc hrx hcp hcrit ha =>
    rw [← exitLoop_nt]; exact .reactCritical hpc hrx hcp hcrit (stepA_nt_iff.2 ha)
  case reactSuccess k D a' hpc hrx hcp hcrit hnb ha =>
    rw [← exitLoop_nt]; exact .reactSuccess hpc hrx hcp hcrit hnb (stepA_nt_iff.2 ha)
  case reactTimeout k D a' hpc hrx hcp hcrit hnb hexp ha =>
    have hks : k ≠ s := fun hk => hne (by subst hk; simp [exitLoop])
    rw [← exitLoop_nt]
    exact .reactTimeout hpc hrx hcp hcrit hnb ((expired_erase_ne s k st _ hks).trans hexp) (stepA_nt_iff.2 ha)
  case reactGo k D a' hpc hrx hcp hcrit hnb hexp ha =>
    exact .reactGo hpc hrx hcp hcrit hnb (expired_erase_false hexp) (stepA_nt_iff.2 ha)
  case orchFail k D a' hpc hrx hcp ha => rw [← exitLoop_nt]; exact .orchFail hpc hrx hcp (stepA_nt_iff.2 ha)
  case timeoutFire k a' hpc hcp hrx hD hexp ha =>
    have hks : k ≠ s := fun hk => hne (by subst hk; simp [exitLoop])
    rw [← exitLoop_nt]
    exact .timeoutFire hpc hcp hrx hD ((expired_erase_ne s k st _ hks).trans hexp) (stepA_nt_iff.2 ha)
  case tidyFinish k pick x r a' hpc hlive hcp hsd hv ha =>
    exact .tidyFinish hpc hlive hcp hsd ((verdict_nt ..).trans hv) (stepA_nt_iff.2 ha)
  case tidyShut k pick x hpc hlive hcp hsd => exact .tidyShut hpc hlive hcp hsd
  case hStepDone j hj0 hjn hs hh hra hsd => exact .hStepDone hj0 hjn hs hh hra hsd
  case hStep j hj0 hjn hs hh hra hsd => exact .hStep hj0 hjn hs hh hra hsd
  case hEnd j hj0 hjn hs hh hcr => exact .hEnd hj0 hjn hs hh hcr
  case hCancelAck j hj0 hjn hs hh hcr => exact .hCancelAck hj0 hjn hs hh hcr
  case hCancelWait k hs0 hsn hs hh hcr hca hbc => exact .hCancelWait hs0 hsn hs hh hcr hca hbc
  case hCancelTidy k hs0 hsn hs hh hcr hca hbc => exact .hCancelTidy hs0 hsn hs hh hcr hca hbc
  case sdWaitInline k pick x r a' hact hcp hhp hbc hpc hv ha =>
    exact .sdWaitInline hact hcp hhp hbc hpc ((verdict_nt ..).trans hv) (stepA_nt_iff.2 ha)
  case sdWaitRelay k pick hact hcp hhp hbc => exact .sdWaitRelay hact hcp hhp hbc
  case sdTimeoutInline k x hbc hact hexp hcp hhp hpc => exact .sdTimeoutInline hbc hact hexp hcp hhp hpc
  case sdTimeoutOther k w hbc hact hexp hcp hhp hno => exact .sdTimeoutOther hbc hact hexp hcp hhp hno
  case sdTidyInline k pick x r a' hact hcp hhp hbc hpc hv ha =>
    exact .sdTidyInline hact hcp hhp hbc hpc ((verdict_nt ..).trans hv) (stepA_nt_iff.2 ha)
  case sdTidyRelay k pick hact hcp hhp hbc => exact .sdTidyRelay hact hcp hhp hbc
  case tick d hq hdl hsd hd hcalm => exact .tick hq (fun k hk hl => within_erase (hdl k hk hl)) hsd hd hcalm
  case extCancel a' ha => exact .extCancel (stepA_nt_iff.2 ha)

theorem step_sim (c : Cfg) (s : Nat) (st st' : StB) (e : EvB) (h : stepB c st e = some st')
    (hne : st'.pcB s ≠ .tidy .timeout) : stepB (noTimeout c s) (eraseDl s st) e = some (eraseDl s st') :=
  (step_sim_rel (.of_stepB h) hne).to_stepB

theorem eraseDl_init (s : Nat) : eraseDl s StB.init = StB.init :=
  congrArg (fun d => { StB.init with deadline := d }) (setAt_eq_self (fun _ => none) s)

theorem eraseDl_idem (s : Nat) (st : StB) : eraseDl s (eraseDl s st) = eraseDl s st := by
  simp only [eraseDl, setAt_setAt]

theorem accept_sim (c : Cfg) (s : Nat) {evs : List EvB} {st st' : StB} (h : acceptB c st evs = some st')
    (hno : ¬ timesOutFrom c s st evs) : acceptB (noTimeout c s) (eraseDl s st) evs = some (eraseDl s st') := by
  obtain ⟨t, ht, rfl⟩ := (isRunB c).sim (isRunB (noTimeout c s)) (fun s1 t1 => t1 = eraseDl s s1) id h rfl
    fun pre s1 e s2 t1 hacc hp hs hr => ⟨_, hr ▸ step_sim c s s1 s2 e hs fun hx => hno ⟨_, s2, hp, hacc, hx⟩, rfl⟩
  simpa using ht

/-- C08: if the run of `s` never leaves its main loop on expiry in a history (`timesOut`: no prefix of the history
    leads to a state where `co_run` of `s` is in the clean-up of `_abort_on_timeout`), the run is exactly the run
    without that timeout: the same events are accepted — in particular time passes in the same way — and the states
    agree (up to the armed deadline).  (`EvB.timeoutFire s ∉ evs` would not be enough: a reaction of `s` that notices
    the expiry leaves the loop as well.) -/
theorem timeout_silent (c : Cfg) (s : Nat) (evs : List EvB) (st : StB)
    (h : acceptB c StB.init evs = some st) (hno : ¬ timesOut c s evs) :
    ∃ st', acceptB (noTimeout c s) StB.init evs = some st' ∧ eraseDl s st' = eraseDl s st := by
  refine ⟨eraseDl s st, ?_, eraseDl_idem s st⟩
  have := accept_sim c s h hno
  rwa [eraseDl_init] at this

/-- C08: the same, read off the diagnosis: a run of `s` that does not report `failed_time_out()` in the end is
    exactly the run without the timeout of `s` (`ExitB.failT_iff_timesOut`) -/
theorem timeout_silent_diag (c : Cfg) (hwf : c.wf = true) (s : Nat) (evs : List EvB) (st : StB)
    (h : acceptB c StB.init evs = some st) (hf : st.failT s = false) :
    ∃ st', acceptB (noTimeout c s) StB.init evs = some st' ∧ eraseDl s st' = eraseDl s st := by
  refine timeout_silent c s evs st h fun ht => ?_
  rw [(ExitB.failT_iff_timesOut c hwf evs st h s).2 ht] at hf
  cases hf

/-- C08: the expiry event is accepted only once `begin + T` has been reached -/
theorem timeoutFire_needs_expiry (c : Cfg) (st st' : StB) (s : Nat) (h : stepB c st (.timeoutFire s) = some st') :
    ∃ dl, st.deadline s = some dl ∧ dl ≤ st.a.now := by
  cases StepB.of_stepB h
  case timeoutFire => exact expired_some ‹_›

/-- C08: a `react s` step that takes the timeout exit happens at an instant where `begin + T` has been reached too (its
    expiry test is the only other place where the deadline of `s` is read) -/
theorem react_timeout_needs_expiry (c : Cfg) (st st' : StB) (s : Nat) (h : stepB c st (.react s) = some st')
    (hx : st'.pcB s = .tidy .timeout) :
    ∃ dl, st.deadline s = some dl ∧ dl ≤ st.a.now := by
  cases StepB.of_stepB h
  case reactTimeout => exact expired_some ‹_›
  case reactGo => exact absurd ((‹st.pcB s = .loop›).symm.trans hx) nofun
  case reactCritical | reactSuccess => simp [exitLoop] at hx

/-! field by field and helper by helper, `noTimeout` / `eraseDl` change only `timeout s` / `deadline s` (all by `rfl`); the
    simulation above goes through the relation and uses none of them -/

theorem quietB_erase (c : Cfg) (s : Nat) (st : StB) : quietB (noTimeout c s) (eraseDl s st) = quietB c st := rfl
theorem liveChildren_nt (c : Cfg) (s : Nat) (a : StA) (k : Nat) : liveChildren (noTimeout c s) a k = liveChildren c a k := rfl
theorem activeHandlers_nt (c : Cfg) (s : Nat) (st : StB) (k : Nat) :
    activeHandlers (noTimeout c s) (eraseDl s st) k = activeHandlers c st k := rfl
theorem broadcast_nt (c : Cfg) (s : Nat) (st : StB) (k : Nat) (w : Who) :
    broadcast (noTimeout c s) (eraseDl s st) k w = eraseDl s (broadcast c st k w) := rfl
theorem eraseDl_a (s : Nat) (st : StB) : (eraseDl s st).a = st.a := rfl
theorem eraseDl_pcB (s : Nat) (st : StB) : (eraseDl s st).pcB = st.pcB := rfl
theorem eraseDl_nbDone (s : Nat) (st : StB) : (eraseDl s st).nbDone = st.nbDone := rfl
theorem eraseDl_carrived (s : Nat) (st : StB) : (eraseDl s st).carrived = st.carrived := rfl
theorem eraseDl_didSd (s : Nat) (st : StB) : (eraseDl s st).didSd = st.didSd := rfl
theorem eraseDl_bc (s : Nat) (st : StB) : (eraseDl s st).bc = st.bc := rfl
theorem eraseDl_hdeadline (s : Nat) (st : StB) : (eraseDl s st).hdeadline = st.hdeadline := rfl
theorem eraseDl_hph (s : Nat) (st : StB) : (eraseDl s st).hph = st.hph := rfl
theorem eraseDl_hcreq (s : Nat) (st : StB) : (eraseDl s st).hcreq = st.hcreq := rfl
theorem eraseDl_hcarrived (s : Nat) (st : StB) : (eraseDl s st).hcarrived = st.hcarrived := rfl
theorem eraseDl_hcalls (s : Nat) (st : StB) : (eraseDl s st).hcalls = st.hcalls := rfl
theorem eraseDl_failT (s : Nat) (st : StB) : (eraseDl s st).failT = st.failT := rfl
theorem eraseDl_failC (s : Nat) (st : StB) : (eraseDl s st).failC = st.failC := rfl
theorem eraseDl_sdValue (s : Nat) (st : StB) : (eraseDl s st).sdValue = st.sdValue := rfl
theorem eraseDl_tbegin (s : Nat) (st : StB) : (eraseDl s st).tbegin = st.tbegin := rfl
theorem eraseDl_tsd (s : Nat) (st : StB) : (eraseDl s st).tsd = st.tsd := rfl
theorem noTimeout_n (c : Cfg) (s : Nat) : (noTimeout c s).n = c.n := rfl
theorem noTimeout_parent (c : Cfg) (s : Nat) : (noTimeout c s).parent = c.parent := rfl
theorem noTimeout_isSched (c : Cfg) (s : Nat) : (noTimeout c s).isSched = c.isSched := rfl
theorem noTimeout_req (c : Cfg) (s : Nat) : (noTimeout c s).req = c.req := rfl
theorem noTimeout_critical (c : Cfg) (s : Nat) : (noTimeout c s).critical = c.critical := rfl
theorem noTimeout_forever (c : Cfg) (s : Nat) : (noTimeout c s).forever = c.forever := rfl
theorem noTimeout_window (c : Cfg) (s : Nat) : (noTimeout c s).window = c.window := rfl
theorem noTimeout_sdTimeout (c : Cfg) (s : Nat) : (noTimeout c s).sdTimeout = c.sdTimeout := rfl
theorem noTimeout_topPure (c : Cfg) (s : Nat) : (noTimeout c s).topPure = c.topPure := rfl
theorem cancelPending_nt (s : Nat) (st : StB) (k : Nat) : cancelPending (eraseDl s st) k = cancelPending st k := rfl
theorem hcancelPending_nt (s : Nat) (st : StB) (k : Nat) : hcancelPending (eraseDl s st) k = hcancelPending st k := rfl
theorem relayActive_nt (s : Nat) (st : StB) (k : Nat) : relayActive (eraseDl s st) k = relayActive st k := rfl
theorem doneSet_nt (c : Cfg) (s : Nat) (a : StA) (k : Nat) : doneSet (noTimeout c s) a k = doneSet c a k := rfl
theorem critIn_nt (c : Cfg) (s : Nat) (a : StA) (D : List Nat) : critIn (noTimeout c s) a D = critIn c a D := rfl
theorem nbFinite_nt (c : Cfg) (s : Nat) (k : Nat) : nbFinite (noTimeout c s) k = nbFinite c k := rfl

macro "nt_norm_at" h:ident : tactic => `(tactic| simp only [stepB] at $h:ident)

end AJ.Proofs.TmoB

namespace AJ.Proofs.Gap2
open AJ.Run AJ.Full AJ.Proofs.CoreB AJ.Proofs.TmoB

/-- `hw`: the `tick` does not pass the deadline of `s`.  Nothing is said of `st1`: a reaction that goes on without the
    timeout may find the deadline reached with it, and leave the loop -/
theorem conv_enabled (c : Cfg) (s : Nat) (st st1' : StB) (e : EvB)
    (h : stepB (noTimeout c s) (eraseDl s st) e = some st1')
    (hw : ∀ d, e = .tick d → st.pcB s = .loop → within (st.deadline s) st.a.now d = true) :
    ∃ st1, StepB c st e st1 := by
  cases StepB.of_stepB h
  case runBegin ha => exact ⟨_, .runBegin (stepA_nt_iff.1 ha)⟩
  case grantJob ha hs => exact ⟨_, .grantJob (stepA_nt_iff.1 ha) hs⟩
  case grantSched ha hs => exact ⟨_, .grantSched (stepA_nt_iff.1 ha) hs⟩
  case bodyEnd ha => exact ⟨_, .bodyEnd (stepA_nt_iff.1 ha)⟩
  case cancelAck ha => exact ⟨_, .cancelAck (stepA_nt_iff.1 ha)⟩
  case cancelLoop h1 h2 h3 h4 h5 h6 ha => exact ⟨_, .cancelLoop h1 h2 h3 h4 h5 h6 (stepA_nt_iff.1 ha)⟩
  case cancelTidy h1 h2 h3 h4 h5 h6 => exact ⟨_, .cancelTidy h1 h2 h3 h4 h5 h6⟩
  case cancelShut h1 h2 h3 h4 h5 h6 => exact ⟨_, .cancelShut h1 h2 h3 h4 h5 h6⟩
  case cancelShutTidy h1 h2 h3 h4 h5 h6 => exact ⟨_, .cancelShutTidy h1 h2 h3 h4 h5 h6⟩
  case waitReturn h1 h2 ha => exact ⟨_, .waitReturn h1 h2 (stepA_nt_iff.1 ha)⟩
  case reactCritical h1 h2 h3 h4 ha => exact ⟨_, .reactCritical h1 h2 h3 h4 (stepA_nt_iff.1 ha)⟩
  case reactSuccess h1 h2 h3 h4 h5 ha => exact ⟨_, .reactSuccess h1 h2 h3 h4 h5 (stepA_nt_iff.1 ha)⟩
  case orchFail h1 h2 h3 ha => exact ⟨_, .orchFail h1 h2 h3 (stepA_nt_iff.1 ha)⟩
  case reactTimeout s0 D a' h1 h2 h3 h4 h5 hexp ha =>
    -- the deadline found reached is not that of `s`, which is erased
    have hs0 : s0 ≠ s := by rintro rfl; rw [expired_erase_self] at hexp; cases hexp
    exact ⟨_, .reactTimeout h1 h2 h3 h4 h5 (by rwa [expired_erase_ne s s0 st _ hs0] at hexp) (stepA_nt_iff.1 ha)⟩
  case timeoutFire s0 a' h1 h2 h3 h4 hexp ha =>
    have hs0 : s0 ≠ s := by rintro rfl; rw [expired_erase_self] at hexp; cases hexp
    exact ⟨_, .timeoutFire h1 h2 h3 h4 (by rwa [expired_erase_ne s s0 st _ hs0] at hexp) (stepA_nt_iff.1 ha)⟩
  case reactGo s0 D a' h1 h2 h3 h4 h5 _ ha =>
    -- with the timeout the same reaction goes on, or notices the expiry
    cases hexp : expired (st.deadline s0) st.a.now with
    | false => exact ⟨_, .reactGo h1 h2 h3 h4 h5 hexp (stepA_nt_iff.1 ha)⟩
    | true =>
      have hK : ∀ k ∈ liveChildren c st.a s0, k ∈ c.children s0 ∧ (st.a.ph k).live = true := fun k hk => mem_liveChildren.1 hk
      cases stepA_nt_iff.1 ha with
      | reactGo hrx hsn hs hpc => exact ⟨_, .reactTimeout h1 h2 h3 h4 h5 hexp (.reactLeave hrx hsn hs hpc hK)⟩
  case tidyFinish h1 h2 h3 h4 h5 ha => exact ⟨_, .tidyFinish h1 h2 h3 h4 (by rw [← verdict_nt c s]; exact h5) (stepA_nt_iff.1 ha)⟩
  case tidyShut h1 h2 h3 h4 => exact ⟨_, .tidyShut h1 h2 h3 h4⟩
  case hStepDone h1 h2 h3 h4 h5 h6 => exact ⟨_, .hStepDone h1 h2 h3 h4 h5 h6⟩
  case hStep h1 h2 h3 h4 h5 h6 => exact ⟨_, .hStep h1 h2 h3 h4 h5 h6⟩
  case hEnd h1 h2 h3 h4 h5 => exact ⟨_, .hEnd h1 h2 h3 h4 h5⟩
  case hCancelAck h1 h2 h3 h4 h5 => exact ⟨_, .hCancelAck h1 h2 h3 h4 h5⟩
  case hCancelWait h1 h2 h3 h4 h5 h6 h7 => exact ⟨_, .hCancelWait h1 h2 h3 h4 h5 h6 h7⟩
  case hCancelTidy h1 h2 h3 h4 h5 h6 h7 => exact ⟨_, .hCancelTidy h1 h2 h3 h4 h5 h6 h7⟩
  case sdWaitInline h1 h2 h3 h4 h5 h6 ha =>
    exact ⟨_, .sdWaitInline h1 h2 h3 h4 h5 (by rw [← verdict_nt c s]; exact h6) (stepA_nt_iff.1 ha)⟩
  case sdWaitRelay h1 h2 h3 h4 => exact ⟨_, .sdWaitRelay h1 h2 h3 h4⟩
  case sdTimeoutInline h1 h2 h3 h4 h5 h6 => exact ⟨_, .sdTimeoutInline h1 h2 h3 h4 h5 h6⟩
  case sdTimeoutOther h1 h2 h3 h4 h5 h6 => exact ⟨_, .sdTimeoutOther h1 h2 h3 h4 h5 h6⟩
  case sdTidyInline h1 h2 h3 h4 h5 h6 ha =>
    exact ⟨_, .sdTidyInline h1 h2 h3 h4 h5 (by rw [← verdict_nt c s]; exact h6) (stepA_nt_iff.1 ha)⟩
  case sdTidyRelay h1 h2 h3 h4 => exact ⟨_, .sdTidyRelay h1 h2 h3 h4⟩
  case tick d hq hdl hsd hd hcalm =>
    refine ⟨_, .tick hq (fun k hk hl => ?_) hsd hd hcalm⟩
    by_cases hks : k = s
    · subst hks; exact hw d rfl hl
    · have := hdl k hk hl
      rwa [eraseDl_deadline, setAt_of_ne _ _ hks] at this
  case extCancel ha => exact ⟨_, .extCancel (stepA_nt_iff.1 ha)⟩

/-- `InvB.deadlineEq` for the one scheduler `s`: the simulation does not assume a well-formed tree -/
def DlArmed (s T : Nat) (st : StB) : Prop := st.pcB s = .loop → st.deadline s = some (st.tbegin s + T)

theorem dlArmed_step (c : Cfg) (s T : Nat) (hT : c.timeout s = some T) (st st1 : StB) (e : EvB) (h : stepB c st e = some st1)
    (hd : DlArmed s T st) : DlArmed s T st1 := by
  intro hl
  rcases loop_back (.of_stepB h) s hl with ⟨h1, h2, h3, _⟩ | ⟨_, _, h2, h3⟩
  · rw [h2, h3]; exact hd h1
  · rw [h2, h3, hT]; rfl

theorem conv_step (c : Cfg) (s T : Nat) (hT : c.timeout s = some T) (st st1' : StB) (e : EvB)
    (hd : DlArmed s T st) (hnt : st.pcB s ≠ .tidy .timeout)
    (h : stepB (noTimeout c s) (eraseDl s st) e = some st1')
    (hb : st.pcB s = .loop → st.a.now < st.tbegin s + T)
    (ha : st1'.pcB s = .loop → st1'.a.now < st1'.tbegin s + T) :
    ∃ st1, stepB c st e = some st1 ∧ eraseDl s st1 = st1' ∧ DlArmed s T st1 ∧ st1.pcB s ≠ .tidy .timeout := by
  have hne : st.pcB s = .loop → expired (st.deadline s) st.a.now = false := by
    intro hl
    rw [hd hl]
    have := hb hl
    simp only [expired, decide_eq_false_iff_not]
    omega
  have hw : ∀ d, e = .tick d → st.pcB s = .loop → within (st.deadline s) st.a.now d = true := by
    rintro d rfl hl
    obtain ⟨_, _, rfl, _⟩ := (StepB.of_stepB h).tick_inv
    rw [hd hl]
    simp only [within, decide_eq_true_eq]
    exact Nat.le_of_lt (ha hl)
  obtain ⟨st1, hs⟩ := conv_enabled c s st st1' e h hw
  have hnt1 : st1.pcB s ≠ .tidy .timeout := fun hx =>
    (tidy_timeout_back hs hx).elim hnt fun ⟨hl, hexp⟩ => by rw [hne hl] at hexp; cases hexp
  have hs := hs.to_stepB
  have hsim := step_sim c s st st1 e hs hnt1
  rw [h] at hsim
  cases hsim
  exact ⟨st1, hs, rfl, dlArmed_step c s T hT st st1 e hs hd, hnt1⟩

theorem conv_accept (c : Cfg) (s T : Nat) (hT : c.timeout s = some T) (evs : List EvB) :
    ∀ (st st' : StB), DlArmed s T st → st.pcB s ≠ .tidy .timeout →
      acceptB (noTimeout c s) (eraseDl s st) evs = some st' →
      (∀ pre sta, pre <+: evs → acceptB (noTimeout c s) (eraseDl s st) pre = some sta → sta.pcB s = .loop →
          sta.a.now < sta.tbegin s + T) →
      ∃ st2, acceptB c st evs = some st2 ∧ eraseDl s st2 = st' ∧ ¬ timesOutFrom c s st evs := by
  induction evs with
  | nil =>
    intro st st' hd hnt h _
    cases h
    exact ⟨st, rfl, rfl, fun hto => hnt ((timesOutFrom_nil c s st).1 hto)⟩
  | cons e es ih =>
    intro st st' hd hnt h hbef
    obtain ⟨st1', hs, h⟩ := (isRunB _).cons_some.1 h
    have hb : st.pcB s = .loop → st.a.now < st.tbegin s + T :=
      hbef [] (eraseDl s st) List.nil_prefix rfl
    have ha : st1'.pcB s = .loop → st1'.a.now < st1'.tbegin s + T :=
      hbef [e] st1' (List.cons_prefix_cons.2 ⟨rfl, List.nil_prefix⟩) ((isRunB _).cons_some.2 ⟨_, hs, rfl⟩)
    obtain ⟨st1, hs1, he1, hd1, hnt1⟩ := conv_step c s T hT st st1' e hd hnt hs hb ha
    subst he1
    obtain ⟨st2, h2, he2, hno2⟩ := ih st1 st' hd1 hnt1 h fun pre sta hp hacc =>
      hbef (e :: pre) sta (List.cons_prefix_cons.2 ⟨rfl, hp⟩) ((isRunB _).cons_some.2 ⟨_, hs, hacc⟩)
    refine ⟨st2, (isRunB c).cons_some.2 ⟨_, hs1, h2⟩, he2, ?_⟩
    rw [timesOutFrom_cons c s st st1 e es hs1]
    rintro (hx | hx)
    · exact hnt hx
    · exact hno2 hx

/-- C08 "finish strictly before T ⇒ no effect", converse of `TmoB.timeout_silent`: a history accepted WITHOUT the
    timeout of `s` in which, whenever the run of `s` is in its main loop, strictly less than `T` has elapsed since it
    began, is accepted WITH the timeout `T` (same events at the same instants), leads to the same state (up to the armed
    deadline), and the run of `s` never leaves its loop on expiry -/
theorem timeout_silent_conv (c : Cfg) (s T : Nat) (hT : c.timeout s = some T) (evs : List EvB) (st' : StB)
    (h : acceptB (noTimeout c s) StB.init evs = some st')
    (hbefore : ∀ pre sta, pre <+: evs → acceptB (noTimeout c s) StB.init pre = some sta → sta.pcB s = .loop →
        sta.a.now < sta.tbegin s + T) :
    ∃ st, acceptB c StB.init evs = some st ∧ eraseDl s st = eraseDl s st' ∧ ¬ timesOut c s evs := by
  have hd : DlArmed s T StB.init := by intro hl; simp [StB.init] at hl
  have hnt : StB.init.pcB s ≠ .tidy .timeout := by simp [StB.init]
  rw [← eraseDl_init s] at h hbefore
  obtain ⟨st2, h2, he2, hno⟩ := conv_accept c s T hT evs StB.init st' hd hnt h hbefore
  refine ⟨st2, h2, ?_, hno⟩
  rw [← he2, eraseDl_idem]

end AJ.Proofs.Gap2
