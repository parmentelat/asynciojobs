/-
  C20 — the tokens of `dot_format()`'s output parse, by the DOT grammar of `Model/DotParse.lean`, into exactly the
  intended statements (`docStmts`): one node statement per atomic job (plus one invisible node per empty nested
  scheduler that an edge is attached to, inside its cluster), one well-nested subgraph per nested scheduler, one edge
  statement per requirement. With `C20Lex.render_lexes` this makes the output a syntactically valid DOT document.
  The examples at the end run lexer and parser in the kernel.
-/
import AJ.Model.DotParse
import AJ.Proofs.C20
import AJ.Proofs.C20Lex
namespace AJ.Proofs.C20Parse
open AJ.Proofs.C20 AJ.Proofs.C20Lex

/-- every keyword starts (up to case) with one of `n e g d s` -/
theorem isKeyword_false_of_head {ch : Char} {rest : List Char}
    (h : ch.toLower ≠ 'n' ∧ ch.toLower ≠ 'e' ∧ ch.toLower ≠ 'g' ∧ ch.toLower ≠ 'd' ∧ ch.toLower ≠ 's') :
    isKeyword (ch :: rest) = false := by
  obtain ⟨h1, h2, h3, h4, h5⟩ := h
  simp [isKeyword, dotKeywords, lowerChars, h1, h2, h3, h4, h5]

theorem toLower_of_isDigit {ch : Char} (h : ch.isDigit = true) : ch.toLower = ch := by
  simp only [Char.isDigit, Bool.and_eq_true, decide_eq_true_eq] at h
  unfold Char.toLower
  rw [dif_neg]
  intro h2
  have h1 := h.2
  have h3 := h2.1
  simp only [ge_iff_le, UInt32.le_iff_toNat_le] at h1 h3
  have e1 : ('9' : Char).val.toNat = 57 := by decide
  have e2 : ('A' : Char).val.toNat = 65 := by decide
  omega

theorem isKeyword_false_of_digit {ch : Char} {rest : List Char} (h : ch.isDigit = true) :
    isKeyword (ch :: rest) = false := by
  apply isKeyword_false_of_head
  rw [toLower_of_isDigit h]
  refine ⟨?_, ?_, ?_, ?_, ?_⟩ <;> (intro e; subst e; revert h; decide)

theorem rid_notKeyword (c : RenderCtx) (j : Nat) : isKeyword (c.rid j).toList = false := by
  have hne := (rid_idOk c j).1
  have hd := rid_digits c j
  cases h : (c.rid j).toList with
  | nil => exact absurd h hne
  | cons ch rest =>
    rw [h] at hd
    exact isKeyword_false_of_digit (hd ch (by simp))

theorem cluster_notKeyword (c : RenderCtx) (s : Nat) : isKeyword (clusterName c s).toList = false := by
  rw [cluster_toList]
  exact isKeyword_false_of_head (by decide)

theorem idOf_rid (c : RenderCtx) (j : Nat) : idOf? (Tok.id (c.rid j).toList) = some (c.rid j).toList := by
  simp [idOf?, rid_notKeyword]

theorem idOf_cluster (c : RenderCtx) (s : Nat) : idOf? (clusterTok c s) = some (clusterName c s).toList := by
  simp [idOf?, clusterTok, cluster_notKeyword]

theorem idOf_true : idOf? (Tok.id "true".toList) = some "true".toList := by
  simp [idOf?, isKeyword_false_of_head (ch := 't')]
theorem idOf_lhead : idOf? (Tok.id "lhead".toList) = some "lhead".toList := by
  simp [idOf?, isKeyword_false_of_head (ch := 'l')]
theorem idOf_ltail : idOf? (Tok.id "ltail".toList) = some "ltail".toList := by
  simp [idOf?, isKeyword_false_of_head (ch := 'l')]
theorem idOf_asynciojobs : idOf? (Tok.id "asynciojobs".toList) = some "asynciojobs".toList := by
  simp [idOf?, isKeyword_false_of_head (ch := 'a')]
theorem compound_notKeyword : isKeyword "compound".toList = false :=
  isKeyword_false_of_head (ch := 'c') (by decide)

theorem attrKeys_notKeyword :
    ∀ k ∈ ["style", "label", "shape", "color", "penwidth"], isKeyword (k : String).toList = false := by
  decide

theorem styleAttrs_notKeyword (c : RenderCtx) (j : Nat) : ∀ kv ∈ styleAttrs c j, isKeyword kv.1.toList = false :=
  fun _ hkv => attrKeys_notKeyword _ (styleAttrs_mem hkv).1

theorem holderAttrs_notKeyword : ∀ kv ∈ holderAttrs, isKeyword kv.1.toList = false := by
  intro kv hkv
  apply attrKeys_notKeyword
  simp only [holderAttrs, List.mem_cons, List.not_mem_nil, or_false] at hkv
  rcases hkv with rfl | rfl <;> simp

theorem lower_ne_of_notKeyword {s : List Char} (h : isKeyword s = false) :
    lowerChars s ≠ "subgraph".toList ∧ lowerChars s ≠ "graph".toList ∧ lowerChars s ≠ "node".toList ∧
      lowerChars s ≠ "edge".toList := by
  simp [isKeyword, dotKeywords] at h
  simp [h]

-- the `.id` clause of `parseStmts` for any `r`: the generated equation lemmas split it on the shape of `r` (its inner
-- `match`es), so none rewrites the clause as a whole
theorem parseStmts_id (f d : Nat) (s : List Char) (r : List Tok) :
    parseStmts (f + 1) d (.id s :: r) =
      (let kw := lowerChars s
    if kw = "subgraph".toList then
      match r with
      | .lbrace :: r' => do
        let (ss, rest) ← parseStmts f (d + 1) r'
        pure (.openSub none :: ss, rest)
      | n :: .lbrace :: r' => do
        let n' ← idOf? n
        let (ss, rest) ← parseStmts f (d + 1) r'
        pure (.openSub (some n') :: ss, rest)
      | _ => none
    else if kw = "graph".toList || kw = "node".toList || kw = "edge".toList then
      match r with
      | .lbrack :: _ => do
        let (as, r') ← parseAttrList f r
        let (ss, rest) ← parseStmts f d (skipSemi r')
        pure (.attr kw as :: ss, rest)
      | _ => none
    else if isKeyword s then none
    else do
      let (st, r') ← parseIdStmt f s r
      let (ss, rest) ← parseStmts f d (skipSemi r')
      pure (st :: ss, rest)) := by
  rw [parseStmts.eq_def]
  cases d <;> rfl

theorem parseStmts_idStmt {f d : Nat} {s : List Char} {r r' rest : List Tok} {st : DStmt} {ss : List DStmt}
    (hk : isKeyword s = false) (h1 : parseIdStmt f s r = some (st, r'))
    (h2 : parseStmts f d (skipSemi r') = some (ss, rest)) :
    parseStmts (f + 1) d (.id s :: r) = some (st :: ss, rest) := by
  obtain ⟨n1, n2, n3, n4⟩ := lower_ne_of_notKeyword hk
  rw [parseStmts_id]
  dsimp only
  rw [if_neg n1, if_neg (by simp only [n2, n3, n4, decide_false, Bool.or_self]; decide), if_neg (by rw [hk]; decide), h1]
  simp only [Option.bind_eq_bind, Option.bind_some, h2]
  rfl

theorem parseStmts_sub {f d : Nat} {n : Tok} {n' : List Char} {r rest : List Tok} {ss : List DStmt}
    (hn : idOf? n = some n') (h : parseStmts f (d + 1) r = some (ss, rest)) :
    parseStmts (f + 1) d (.id "subgraph".toList :: n :: .lbrace :: r) = some (.openSub (some n') :: ss, rest) := by
  rw [parseStmts_id]
  have e : lowerChars "subgraph".toList = "subgraph".toList := by decide
  dsimp only
  rw [if_pos e]
  -- the `match` on `n :: .lbrace :: _` reduces only when the constructor of `n` is known; the constructors that are
  -- no ID contradict `hn`
  cases n <;> first | (simp only [hn, h, Option.bind_eq_bind, Option.bind_some]; rfl) | (exact absurd hn (by simp [idOf?]))

theorem parseStmts_graph {f d : Nat} {r r' rest : List Tok} {as : DAttrs} {ss : List DStmt}
    (h1 : parseAttrList f (.lbrack :: r) = some (as, r')) (h2 : parseStmts f d (skipSemi r') = some (ss, rest)) :
    parseStmts (f + 1) d (.id "graph".toList :: .lbrack :: r) = some (.attr "graph".toList as :: ss, rest) := by
  rw [parseStmts_id]
  have e : lowerChars "graph".toList = "graph".toList := by decide
  have n1 : lowerChars "graph".toList ≠ "subgraph".toList := by decide
  dsimp only
  rw [if_neg n1, if_pos (by rw [e]; decide)]
  simp only [h1, h2, Option.bind_eq_bind, Option.bind_some, e]
  rfl

theorem parseStmts_close {f d : Nat} {r rest : List Tok} {ss : List DStmt}
    (h : parseStmts f d (skipSemi r) = some (ss, rest)) :
    parseStmts (f + 1) (d + 1) (.rbrace :: r) = some (.closeSub :: ss, rest) := by
  rw [parseStmts.eq_3]
  simp [h]

theorem parseIdStmt_assign {f : Nat} {x v' : List Char} {v : Tok} {r : List Tok} (hv : idOf? v = some v') :
    parseIdStmt f x (.eq :: v :: r) = some (.assign x v', r) := by
  simp [parseIdStmt, hv]

theorem parseIdStmt_edge {f : Nat} {x y' : List Char} {y : Tok} {r r' : List Tok} {as : DAttrs}
    (hy : idOf? y = some y') (h : parseAttrList f r = some (as, r')) :
    parseIdStmt f x (.arrow :: y :: r) = some (.edge x y' as, r') := by
  simp [parseIdStmt, hy, h]

theorem parseIdStmt_node {f : Nat} {x : List Char} {r r' : List Tok} {as : DAttrs}
    (h : parseAttrList f (.lbrack :: r) = some (as, r')) :
    parseIdStmt f x (.lbrack :: r) = some (.node x as, r') := by
  simp [parseIdStmt, h]

/-- a token that can begin a statement or end a statement list (in particular neither `[` nor `;`) -/
def startOk : List Tok → Bool
  | .rbrace :: _ => true
  | .id _ :: _ => true
  | _ => false

theorem skipSemi_of_startOk {r : List Tok} (h : startOk r = true) : skipSemi r = r := by
  match r, h with
  | .rbrace :: _, _ => rfl
  | .id _ :: _, _ => rfl

theorem parseAttrList_of_startOk (f : Nat) {r : List Tok} (h : startOk r = true) :
    parseAttrList f r = some ([], r) := by
  match r, h with
  | .rbrace :: _, _ => cases f <;> rfl
  | .id _ :: _, _ => cases f <;> rfl

theorem parseAttrList_semi (f : Nat) (r : List Tok) : parseAttrList f (.semi :: r) = some ([], .semi :: r) := by
  cases f <;> rfl

theorem parseAList_nil (f : Nat) (r : List Tok) : parseAList f (.rbrack :: r) = some ([], r) := by
  cases f <;> rfl

theorem parseAList_cons {f : Nat} {k v : Tok} {k' v' : List Char} {r rest : List Tok} {as : DAttrs}
    (hk : idOf? k = some k') (hv : idOf? v = some v') (h : parseAList f (skipSep r) = some (as, rest)) :
    parseAList (f + 1) (k :: .eq :: v :: r) = some ((k', v') :: as, rest) := by
  cases k <;> first
    | (simp only [parseAList, hk, hv, h, Option.bind_eq_bind, Option.bind_some]; rfl)
    | (exact absurd hk (by simp [idOf?]))

theorem parseAttrList_one {f : Nat} {r rest : List Tok} {as : DAttrs}
    (h1 : parseAList f r = some (as, rest)) (h2 : parseAttrList f rest = some ([], rest)) :
    parseAttrList (f + 1) (.lbrack :: r) = some (as, rest) := by
  simp only [parseAttrList, h1, h2, Option.bind_eq_bind, Option.bind_some, List.append_nil]
  rfl

def attrsOf (as : List (String × String)) : DAttrs := as.map fun kv => (kv.1.toList, kv.2.toList)

theorem parseAList_attrToks : ∀ (as : List (String × String)), (∀ kv ∈ as, isKeyword kv.1.toList = false) →
    ∀ (f : Nat) (rest : List Tok), (attrToks as).length ≤ f →
      parseAList f (attrToks as ++ Tok.rbrack :: rest) = some (attrsOf as, rest)
  | [], _, f, rest, _ => parseAList_nil f rest
  | [kv], hk, f + 1, rest, _ => by
    have hk' := hk kv (by simp)
    exact parseAList_cons (by simp [idOf?, hk']) (by simp [idOf?]) (parseAList_nil f rest)
  | kv :: kv' :: l, hk, f + 1, rest, hf => by
    have hk' := hk kv (by simp)
    have ih := parseAList_attrToks (kv' :: l) (fun x hx => hk x (by simp [hx])) f rest
      (by simp only [attrToks, List.length_cons] at hf ⊢; omega)
    exact parseAList_cons (by simp [idOf?, hk']) (by simp [idOf?]) ih

theorem parseAttrList_attrs (as : List (String × String)) (hk : ∀ kv ∈ as, isKeyword kv.1.toList = false)
    {f : Nat} {rest : List Tok}
    (hf : (attrToks as).length + 1 ≤ f) (h2 : ∀ f', parseAttrList f' rest = some ([], rest)) :
    parseAttrList f (Tok.lbrack :: (attrToks as ++ Tok.rbrack :: rest)) = some (attrsOf as, rest) := by
  obtain ⟨f', rfl⟩ : ∃ f', f = f' + 1 := ⟨f - 1, by omega⟩
  exact parseAttrList_one (parseAList_attrToks _ hk f' rest (by omega)) (h2 f')

/-- the statements one item is meant to be -/
def stmtsOf (c : RenderCtx) : Item → List DStmt
  | .node j => [.node (c.rid j).toList (attrsOf (styleAttrs c j))]
  | .openCluster s =>
    [.openSub (some (clusterName c s).toList), .assign "compound".toList "true".toList,
     .attr "graph".toList (attrsOf (styleAttrs c s))]
  | .close => [.closeSub]
  | .edge a b hd tl =>
    [.edge (c.rid a).toList (c.rid b).toList
      ((match hd with | some h => [("lhead".toList, (clusterName c h).toList)] | none => []) ++
       (match tl with | some t => [("ltail".toList, (clusterName c t).toList)] | none => []))]
  | .holder s => [.node (c.rid s).toList (attrsOf holderAttrs)]

/-- the statements of the whole document -/
def docStmts (c : RenderCtx) (items : List Item) : List DStmt :=
  [.assign "compound".toList "true".toList, .attr "graph".toList []] ++ items.flatMap (stmtsOf c)

/-- `id [attrs]`, then the rest of the statement list -/
theorem parseStmts_node_line (c : RenderCtx) (j : Nat) {as : List (String × String)}
    (hk : ∀ kv ∈ as, isKeyword kv.1.toList = false) {f d : Nat} {toks rest : List Tok} {ss : List DStmt}
    (hs : startOk toks = true) (hf : (attrToks as).length + 1 ≤ f) (h : parseStmts f d toks = some (ss, rest)) :
    parseStmts (f + 1) d (Tok.id (c.rid j).toList :: Tok.lbrack :: (attrToks as ++ Tok.rbrack :: toks)) =
      some (.node (c.rid j).toList (attrsOf as) :: ss, rest) :=
  parseStmts_idStmt (rid_notKeyword c j)
    (parseIdStmt_node (parseAttrList_attrs _ hk hf fun f' => parseAttrList_of_startOk f' hs))
    (by rw [skipSemi_of_startOk hs]; exact h)

/-- the tokens of ` [lhead=… ltail=…]`, as far as present (cf. `C20Lex.edgeAttrChars`) -/
def edgeAttrToks (c : RenderCtx) : Option Nat → Option Nat → List Tok
  | none, none => []
  | none, some t => [.lbrack, .id "ltail".toList, .eq, clusterTok c t, .rbrack]
  | some h, none => [.lbrack, .id "lhead".toList, .eq, clusterTok c h, .rbrack]
  | some h, some t =>
    [.lbrack, .id "lhead".toList, .eq, clusterTok c h, .id "ltail".toList, .eq, clusterTok c t, .rbrack]

theorem itemToks_edge (c : RenderCtx) (a b : Nat) (hd tl : Option Nat) :
    itemToks c (.edge a b hd tl) =
      .id (c.rid a).toList :: .arrow :: .id (c.rid b).toList :: (edgeAttrToks c hd tl ++ [.semi]) := by
  cases hd <;> cases tl <;> rfl

theorem parseAttrList_edgeAttrs (c : RenderCtx) (f : Nat) (toks : List Tok) : ∀ hd tl,
    parseAttrList (f + 3) (edgeAttrToks c hd tl ++ .semi :: toks) =
      some ((match hd with | some h => [("lhead".toList, (clusterName c h).toList)] | none => []) ++
            (match tl with | some t => [("ltail".toList, (clusterName c t).toList)] | none => []), .semi :: toks)
  | none, none => parseAttrList_semi _ toks
  | none, some t =>
    parseAttrList_one (parseAList_cons idOf_ltail (idOf_cluster c t) (parseAList_nil _ _)) (parseAttrList_semi _ toks)
  | some h, none =>
    parseAttrList_one (parseAList_cons idOf_lhead (idOf_cluster c h) (parseAList_nil _ _)) (parseAttrList_semi _ toks)
  | some h, some t =>
    parseAttrList_one (parseAList_cons idOf_lhead (idOf_cluster c h)
      (parseAList_cons idOf_ltail (idOf_cluster c t) (parseAList_nil f _))) (parseAttrList_semi _ toks)

theorem startOk_items (c : RenderCtx) (items : List Item) :
    startOk (items.flatMap (itemToks c) ++ [Tok.rbrace]) = true := by
  cases items with
  | nil => rfl
  | cons it items =>
    cases it with
    | edge _ _ hd tl => cases hd <;> cases tl <;> rfl
    | _ => rfl

/-- `depthOk d items`: the items close the `d` clusters open before them; one unit of fuel per token is enough -/
theorem parseStmts_items (c : RenderCtx) : ∀ (items : List Item) (d f : Nat), depthOk d items = true →
    (items.flatMap (itemToks c)).length + 1 ≤ f →
    parseStmts f d (items.flatMap (itemToks c) ++ [Tok.rbrace]) = some (items.flatMap (stmtsOf c), [])
  | [], d, f, hd, _ => by
    have : d = 0 := by simpa [depthOk] using hd
    subst this
    exact parseStmts.eq_1 f []
  | it :: items, d, f, hd, hf => by
    have hs := startOk_items c items
    have ih := parseStmts_items c items
    rw [List.flatMap_cons, List.length_append] at hf
    rw [List.flatMap_cons, List.flatMap_cons, List.append_assoc]
    generalize items.flatMap (itemToks c) ++ [Tok.rbrace] = toks,
      (items.flatMap (itemToks c)).length = n at hs ih hf
    -- from here on: `itemToks c it ++ toks` at fuel `f ≥ |itemToks c it| + n + 1`; `toks` parses at any fuel `≥ n + 1`
    match it with
    | .node j =>
      have hd' := (depthOk_cons_plain (.node j) nofun nofun d items).symm.trans hd
      simp only [itemToks, List.length_cons, List.length_append, List.length_nil] at hf
      obtain ⟨f', rfl⟩ : ∃ f', f = f' + 1 := ⟨f - 1, by omega⟩
      simp only [itemToks, stmtsOf, List.cons_append, List.append_assoc, List.nil_append]
      exact parseStmts_node_line c j (styleAttrs_notKeyword c j) hs (by omega) (ih d f' hd' (by omega))
    | .holder j =>
      have hd' := (depthOk_cons_plain (.holder j) nofun nofun d items).symm.trans hd
      simp only [itemToks, List.length_cons, List.length_append, List.length_nil] at hf
      obtain ⟨f', rfl⟩ : ∃ f', f = f' + 1 := ⟨f - 1, by omega⟩
      simp only [itemToks, stmtsOf, List.cons_append, List.append_assoc, List.nil_append]
      exact parseStmts_node_line c j holderAttrs_notKeyword hs (by omega) (ih d f' hd' (by omega))
    | .openCluster s =>
      have hd' : depthOk (d + 1) items = true := by simpa [depthOk] using hd
      simp only [itemToks, List.length_cons, List.length_append, List.length_nil] at hf
      obtain ⟨f', rfl⟩ : ∃ f', f = f' + 1 + 1 + 1 := ⟨f - 3, by omega⟩
      simp only [itemToks, stmtsOf, List.cons_append, List.append_assoc, List.nil_append]
      exact parseStmts_sub (idOf_cluster c s)
        (parseStmts_idStmt compound_notKeyword (parseIdStmt_assign idOf_true)
          (parseStmts_graph (parseAttrList_attrs _ (styleAttrs_notKeyword c s) (by omega)
            (fun f'' => parseAttrList_semi f'' toks))
            (ih (d + 1) f' hd' (by omega))))
    | .close =>
      obtain ⟨d', rfl⟩ : ∃ d', d = d' + 1 := by
        cases d with
        | zero => simp [depthOk] at hd
        | succ d' => exact ⟨d', rfl⟩
      have hd' : depthOk d' items = true := by simpa [depthOk] using hd
      simp only [itemToks, List.length_cons, List.length_nil] at hf
      obtain ⟨f', rfl⟩ : ∃ f', f = f' + 1 := ⟨f - 1, by omega⟩
      simp only [itemToks, stmtsOf, List.cons_append, List.nil_append]
      exact parseStmts_close (by rw [skipSemi_of_startOk hs]; exact ih d' f' hd' (by omega))
    | .edge a b hh tl =>
      have hd' := (depthOk_cons_plain (.edge a b hh tl) nofun nofun d items).symm.trans hd
      rw [itemToks_edge] at hf ⊢
      simp only [List.length_cons, List.length_append, List.length_nil] at hf
      obtain ⟨f', rfl⟩ : ∃ f', f = f' + 3 + 1 := ⟨f - 4, by omega⟩
      simp only [stmtsOf, List.cons_append, List.append_assoc, List.nil_append]
      exact parseStmts_idStmt (rid_notKeyword c a)
        (parseIdStmt_edge (idOf_rid c b) (parseAttrList_edgeAttrs c f' toks hh tl))
        (ih d _ hd' (by omega))

theorem parseDot_digraph {n : Tok} {n' : List Char} {body : List Tok} {ss : List DStmt} (hn : idOf? n = some n')
    (h : parseStmts ((Tok.id "digraph".toList :: n :: Tok.lbrace :: body).length + 1) 0 body = some (ss, [])) :
    parseDot (Tok.id "digraph".toList :: n :: Tok.lbrace :: body) = some (some n', ss) := by
  have n1 : lowerChars "digraph".toList ≠ "strict".toList := by decide
  have e : lowerChars "digraph".toList = "digraph".toList := by decide
  unfold parseDot
  dsimp only
  rw [if_neg n1]
  dsimp only
  rw [if_pos e]
  cases n <;> first
    | (simp only [hn, h, Option.bind_eq_bind, Option.bind_some]; rfl)
    | (exact absurd hn (by simp [idOf?]))

/-- C20: the intended tokens of a well-bracketed item list parse into the intended statements -/
theorem docToks_parse (c : RenderCtx) (items : List Item) (hb : depthOk 0 items = true) :
    parseDot (docToks c items) = some (some "asynciojobs".toList, docStmts c items) := by
  have hs := startOk_items c items
  have ih := parseStmts_items c items 0
  generalize htoks : items.flatMap (itemToks c) ++ [Tok.rbrace] = toks at hs ih
  have hlen : toks.length = (items.flatMap (itemToks c)).length + 1 := by rw [← htoks]; simp
  have e : docToks c items =
      Tok.id "digraph".toList :: Tok.id "asynciojobs".toList :: Tok.lbrace :: Tok.id "compound".toList :: Tok.eq ::
        Tok.id "true".toList :: Tok.semi :: Tok.id "graph".toList :: Tok.lbrack :: Tok.rbrack :: Tok.semi :: toks := by
    simp [docToks, ← htoks]
  rw [e]
  refine parseDot_digraph idOf_asynciojobs ?_
  have hfuel : (Tok.id "digraph".toList :: Tok.id "asynciojobs".toList :: Tok.lbrace :: Tok.id "compound".toList ::
      Tok.eq :: Tok.id "true".toList :: Tok.semi :: Tok.id "graph".toList :: Tok.lbrack :: Tok.rbrack :: Tok.semi ::
        toks).length + 1 = (toks.length + 9) + 1 + 1 + 1 := by
    simp only [List.length_cons]
  rw [hfuel]
  exact parseStmts_idStmt compound_notKeyword (parseIdStmt_assign idOf_true)
    (parseStmts_graph (parseAttrList_one (parseAList_nil _ _) (parseAttrList_semi _ toks))
      (ih _ hb (by omega)))

/-- C20: for labels without backslash, the text of `dot_format()` is a syntactically valid DOT document: it lexes
    and parses, and its statements are exactly the intended ones -/
theorem render_parses (c : RenderCtx) (items : List Item)
    (hlab : ∀ j, ∀ ch ∈ (c.label j).toList, ch ≠ '\\') (hw : 0 < c.w) (hb : depthOk 0 items = true) :
    parseString (render c items) = some (some "asynciojobs".toList, docStmts c items) := by
  rw [parseString, render_lexes c items hlab hw, Option.bind_some]
  exact docToks_parse c items hb

/-- C20: the same for the items `dot_format()` produces, which are well bracketed (`dotBody_brackets`); in particular
    the clusters are well nested in the parse -/
theorem dot_format_parses (c : RenderCtx) (F fuel s : Nat) (items : List Item)
    (h : dotBody c.t F fuel s = .ok items)
    (hlab : ∀ j, ∀ ch ∈ (c.label j).toList, ch ≠ '\\') (hw : 0 < c.w) :
    parseString (render c items) = some (some "asynciojobs".toList, docStmts c items) :=
  render_parses c items hlab hw (dotBody_brackets c.t F fuel s items h)

/-- C20: no colour is inherited from an enclosing cluster. In the statements the document parses into
    (`docStmts`, see `render_parses`), the subgraph of every cluster `s` opens with its own `graph [...]` statement,
    and the attributes of that statement include `color`: `red` when `s` is critical, `black` otherwise -/
theorem cluster_color_parsed (c : RenderCtx) (items : List Item) (s : Nat) (h : Item.openCluster s ∈ items) :
    ∃ as, [DStmt.openSub (some (clusterName c s).toList), .assign "compound".toList "true".toList,
        .attr "graph".toList as] <:+: docStmts c items ∧
      ("color".toList, (if c.t.critical s = true then "red" else "black").toList) ∈ as := by
  obtain ⟨l1, l2, rfl⟩ := List.append_of_mem h
  refine ⟨attrsOf (styleAttrs c s), ⟨[.assign "compound".toList "true".toList, .attr "graph".toList []] ++
    l1.flatMap (stmtsOf c), l2.flatMap (stmtsOf c), ?_⟩, ?_⟩
  · simp only [docStmts, List.flatMap_append, List.flatMap_cons, stmtsOf, List.append_assoc]
  · obtain ⟨v, hv, rfl⟩ := cluster_color_explicit c s
    exact List.mem_map.2 ⟨_, hv, rfl⟩

-- a nested scheduler 1 holding job 2, then the critical job 3 that requires the nested scheduler; job 2's label
-- contains double quotes
def exT : T where
  n := 4
  isSched := fun j => j == 0 || j == 1
  mem := fun j => if j == 0 then [1, 3] else if j == 1 then [2] else []
  req := fun j => if j == 3 then [1] else []
  forever := fun _ => false
  critical := fun j => j == 3

def exCtx : RenderCtx :=
  { t := exT, idOf := fun j => j, w := 1, label := fun j => if j == 2 then "a \"b\"" else "job" }

def exItems : List Item := [.openCluster 1, .node 2, .close, .node 3, .edge 2 3 none (some 1)]

theorem exItems_eq : dotBody exT 5 5 0 = .ok exItems := by rfl

/-- the text lexes and parses (the lexer and the parser are run on the characters of the text, not `render_lexes` /
    `docToks_parse` applied) into one cluster, two nodes and one edge, the quoted label being recovered unescaped -/
example : parseString (render exCtx exItems) = some (some "asynciojobs".toList,
    [.assign "compound".toList "true".toList, .attr "graph".toList [],
     .openSub (some "cluster_1".toList), .assign "compound".toList "true".toList,
     .attr "graph".toList [("style".toList, []), ("label".toList, "1: job".toList), ("shape".toList, "box".toList),
       ("color".toList, "black".toList), ("penwidth".toList, "0.5".toList)],
     .node "2".toList [("style".toList, "rounded".toList), ("label".toList, "2: a \"b\"".toList),
       ("shape".toList, "box".toList), ("color".toList, "black".toList),
       ("penwidth".toList, "0.5".toList)],
     .closeSub,
     .node "3".toList [("style".toList, "rounded".toList), ("label".toList, "3: job".toList),
       ("shape".toList, "box".toList), ("color".toList, "red".toList), ("penwidth".toList, "2".toList)],
     .edge "2".toList "3".toList [("ltail".toList, "cluster_1".toList)]]) := by
  -- the characters come from `render_toList`: `String.toList` of a long string is quadratic in the kernel
  rw [parseString, lexString, render_toList]
  decide +kernel

/-- and `dot_format_parses` applies to it: its hypotheses hold -/
example : parseString (render exCtx exItems) = some (some "asynciojobs".toList, docStmts exCtx exItems) :=
  dot_format_parses exCtx 5 5 0 exItems exItems_eq
    (by
      intro j ch hch
      by_cases hj : j = 2
      · subst hj; revert ch; decide
      · have : exCtx.label j = "job" := by simp [exCtx, hj]
        rw [this] at hch
        revert ch; decide)
    (by decide)

/-! non-vacuity on empty nested schedulers (defect D9: `ValueError` in `dot_format()`): the nested schedulers 1, 3
    and 4 are empty; job 2 requires scheduler 1, scheduler 3 requires job 2 and scheduler 1; no edge is attached to
    scheduler 4 -/

def exT2 : T where
  n := 5
  isSched := fun j => j == 0 || j == 1 || j == 3 || j == 4
  mem := fun j => if j == 0 then [1, 2, 3, 4] else []
  req := fun j => if j == 2 then [1] else if j == 3 then [2, 1] else []
  forever := fun _ => false
  critical := fun _ => false

def exCtx2 : RenderCtx := { t := exT2, idOf := fun j => j, w := 1, label := fun _ => "x" }

def exItems2 : List Item :=
  [.openCluster 1, .holder 1, .close, .node 2, .edge 1 2 none (some 1),
   .openCluster 3, .holder 3, .close, .edge 2 3 (some 3) none, .edge 1 3 (some 3) (some 1),
   .openCluster 4, .close]

/-- an empty scheduler stands for itself -/
example : middleEntry exT2 5 1 = .ok 1 ∧ middleExit exT2 5 1 = .ok 1 := ⟨rfl, rfl⟩

/-- each empty nested scheduler that an edge is attached to owns an invisible node, inside its cluster, that the
    edges from / to the cluster use; scheduler 4, empty as well but neither required nor requiring, has none -/
theorem exItems2_eq : dotBody exT2 5 5 0 = .ok exItems2 := by rfl

example : dotItems exT2 5 0 = .ok exItems2 := by rfl

/-- the first run of `_dot_body` (no `_dot_anchor` set) has no holder at all; its edges give the anchors 1 and 3 -/
example : dotBodyWith exT2 [] 5 5 0 = .ok (exItems2.filter fun i => match i with | .holder _ => false | _ => true) ∧
    anchorsOf exT2 exItems2 = [1, 3, 1, 3] := ⟨rfl, rfl⟩

example : Item.holder 1 ∈ exItems2 ∧ Item.holder 3 ∈ exItems2 ∧ Item.holder 4 ∉ exItems2 ∧
    Item.openCluster 4 ∈ exItems2 := by decide

/-- an empty scheduler reached by the descent of `_middle_exit_job` from a linked ancestor gets its node too:
    scheduler 1 holds the empty scheduler 2 only; job 3 requires scheduler 1 -/
def exT3 : T where
  n := 4
  isSched := fun j => j == 0 || j == 1 || j == 2
  mem := fun j => if j == 0 then [1, 3] else if j == 1 then [2] else []
  req := fun j => if j == 3 then [1] else []
  forever := fun _ => false
  critical := fun _ => false

example : dotBody exT3 5 5 0 =
    .ok [.openCluster 1, .openCluster 2, .holder 2, .close, .close, .node 3, .edge 2 3 none (some 1)] := by rfl

/-- the text, byte for byte -/
example : render exCtx2 exItems2 =
    "digraph asynciojobs{\ncompound=true;\ngraph [];\n" ++
    "subgraph cluster_1{\ncompound=true;\n" ++
    "graph [style=\"\",label=\"1: x\",shape=\"box\",color=\"black\",penwidth=\"0.5\"];\n" ++
    "1 [shape=\"point\",style=\"invis\"]\n}\n" ++
    "2 [style=\"rounded\",label=\"2: x\",shape=\"box\",color=\"black\",penwidth=\"0.5\"]\n" ++
    "1 -> 2 [ltail=cluster_1];\n" ++
    "subgraph cluster_3{\ncompound=true;\n" ++
    "graph [style=\"\",label=\"3: x\",shape=\"box\",color=\"black\",penwidth=\"0.5\"];\n" ++
    "3 [shape=\"point\",style=\"invis\"]\n}\n" ++
    "2 -> 3 [lhead=cluster_3];\n" ++
    "1 -> 3 [lhead=cluster_3 ltail=cluster_1];\n" ++
    "subgraph cluster_4{\ncompound=true;\n" ++
    "graph [style=\"\",label=\"4: x\",shape=\"box\",color=\"black\",penwidth=\"0.5\"];\n}\n" ++
    "}\n" := by
  decide +kernel

/-- the invisible node alone: its line lexes into the intended tokens and a document made of it parses into one
    node statement with the two attributes (the lexer and the parser are run, as above) -/
example : lexString (renderItem exCtx2 (.holder 1)) = some (itemToks exCtx2 (.holder 1)) := by
  rw [lexString, renderItem_toList]
  decide +kernel

example : parseString (render exCtx2 [.holder 1]) = some (some "asynciojobs".toList,
    [.assign "compound".toList "true".toList, .attr "graph".toList [],
     .node "1".toList [("shape".toList, "point".toList), ("style".toList, "invis".toList)]]) := by
  rw [parseString, lexString, render_toList]
  decide +kernel

/-- `dot_format_parses` applies to the whole example -/
theorem exItems2_parses :
    parseString (render exCtx2 exItems2) = some (some "asynciojobs".toList, docStmts exCtx2 exItems2) :=
  dot_format_parses exCtx2 5 5 0 exItems2 exItems2_eq
    (by intro j; show ∀ ch ∈ ("x" : String).toList, ch ≠ '\\'; decide) (by decide)

/-- … so the text parses into these statements: the invisible nodes are node statements inside their clusters -/
example : parseString (render exCtx2 exItems2) = some (some "asynciojobs".toList,
    [.assign "compound".toList "true".toList, .attr "graph".toList [],
     .openSub (some "cluster_1".toList), .assign "compound".toList "true".toList,
     .attr "graph".toList [("style".toList, []), ("label".toList, "1: x".toList), ("shape".toList, "box".toList),
       ("color".toList, "black".toList), ("penwidth".toList, "0.5".toList)],
     .node "1".toList [("shape".toList, "point".toList), ("style".toList, "invis".toList)],
     .closeSub,
     .node "2".toList [("style".toList, "rounded".toList), ("label".toList, "2: x".toList),
       ("shape".toList, "box".toList), ("color".toList, "black".toList),
       ("penwidth".toList, "0.5".toList)],
     .edge "1".toList "2".toList [("ltail".toList, "cluster_1".toList)],
     .openSub (some "cluster_3".toList), .assign "compound".toList "true".toList,
     .attr "graph".toList [("style".toList, []), ("label".toList, "3: x".toList), ("shape".toList, "box".toList),
       ("color".toList, "black".toList), ("penwidth".toList, "0.5".toList)],
     .node "3".toList [("shape".toList, "point".toList), ("style".toList, "invis".toList)],
     .closeSub,
     .edge "2".toList "3".toList [("lhead".toList, "cluster_3".toList)],
     .edge "1".toList "3".toList [("lhead".toList, "cluster_3".toList), ("ltail".toList, "cluster_1".toList)],
     .openSub (some "cluster_4".toList), .assign "compound".toList "true".toList,
     .attr "graph".toList [("style".toList, []), ("label".toList, "4: x".toList), ("shape".toList, "box".toList),
       ("color".toList, "black".toList), ("penwidth".toList, "0.5".toList)],
     .closeSub]) := by
  rw [exItems2_parses]
  decide +kernel

/-- and the hypotheses of `dotBody_total` hold for it -/
example : ∃ items, dotBody exT2 5 5 0 = .ok items :=
  dotBody_total exT2 5 5 0 [1, 2, 3, 4] (by decide)
    (by
      intro s' _ _ k hk
      by_cases h0 : s' = 0
      · subst h0
        have : k = 1 ∨ k = 2 ∨ k = 3 ∨ k = 4 := by simpa [exT2] using hk
        have hn : exT2.n = 5 := rfl
        omega
      · have : exT2.mem s' = [] := by simp [exT2, h0]
        rw [this] at hk; cases hk)
    (by decide) (by rfl)

/-! non-vacuity for defect D16 (a DOT cluster inherits the colour of the enclosing one): the non-critical scheduler 2
    lies inside the critical scheduler 1; its cluster states `color="black"` itself instead of inheriting
    `color="red"` from `cluster_1` -/

def exT4 : T where
  n := 4
  isSched := fun j => j == 0 || j == 1 || j == 2
  mem := fun j => if j == 0 then [1] else if j == 1 then [2] else if j == 2 then [3] else []
  req := fun _ => []
  forever := fun _ => false
  critical := fun j => j == 1

def exCtx4 : RenderCtx := { t := exT4, idOf := fun j => j, w := 1, label := fun _ => "x" }

def exItems4 : List Item := [.openCluster 1, .openCluster 2, .node 3, .close, .close]

theorem exItems4_eq : dotBody exT4 5 5 0 = .ok exItems4 := by rfl

/-- the text, byte for byte -/
example : render exCtx4 exItems4 =
    "digraph asynciojobs{\ncompound=true;\ngraph [];\n" ++
    "subgraph cluster_1{\ncompound=true;\n" ++
    "graph [style=\"\",label=\"1: x\",shape=\"box\",color=\"red\",penwidth=\"2\"];\n" ++
    "subgraph cluster_2{\ncompound=true;\n" ++
    "graph [style=\"\",label=\"2: x\",shape=\"box\",color=\"black\",penwidth=\"0.5\"];\n" ++
    "3 [style=\"rounded\",label=\"3: x\",shape=\"box\",color=\"black\",penwidth=\"0.5\"]\n" ++
    "}\n}\n}\n" := by
  decide +kernel

/-- … and what it parses into (through `dot_format_parses`): each of the two clusters has its own `color` -/
example : parseString (render exCtx4 exItems4) = some (some "asynciojobs".toList,
    [.assign "compound".toList "true".toList, .attr "graph".toList [],
     .openSub (some "cluster_1".toList), .assign "compound".toList "true".toList,
     .attr "graph".toList [("style".toList, []), ("label".toList, "1: x".toList), ("shape".toList, "box".toList),
       ("color".toList, "red".toList), ("penwidth".toList, "2".toList)],
     .openSub (some "cluster_2".toList), .assign "compound".toList "true".toList,
     .attr "graph".toList [("style".toList, []), ("label".toList, "2: x".toList), ("shape".toList, "box".toList),
       ("color".toList, "black".toList), ("penwidth".toList, "0.5".toList)],
     .node "3".toList [("style".toList, "rounded".toList), ("label".toList, "3: x".toList),
       ("shape".toList, "box".toList), ("color".toList, "black".toList), ("penwidth".toList, "0.5".toList)],
     .closeSub, .closeSub]) := by
  rw [dot_format_parses exCtx4 5 5 0 exItems4 exItems4_eq
    (by intro j; show ∀ ch ∈ ("x" : String).toList, ch ≠ '\\'; decide) (by decide)]
  decide +kernel

/-- `style_color` and `cluster_color_parsed` on it -/
example : ("color", "black") ∈ styleAttrs exCtx4 2 ∧ ("color", "red") ∈ styleAttrs exCtx4 1 :=
  ⟨((style_color exCtx4 2).2.2.1).2 rfl, ((style_color exCtx4 1).2.1).2 rfl⟩

example : ∃ as, [DStmt.openSub (some "cluster_2".toList), .assign "compound".toList "true".toList,
      .attr "graph".toList as] <:+: docStmts exCtx4 exItems4 ∧ ("color".toList, "black".toList) ∈ as :=
  cluster_color_parsed exCtx4 exItems4 2 (by decide)

end AJ.Proofs.C20Parse
