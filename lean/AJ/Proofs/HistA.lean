/-
  Layer A, history-level theorems: what the sequence of events says (C01, C02, C14 "truth").  `Ghost` relates an
  accepted history to the state it leads to; what one step does to each of its fields is read off `ph_cases` /
  `step_pc`, or by `cases` on the step once the event is known.  The theorems are proved for the lax model
  (`acceptAL`: no urgency guard, namespace `LaxA`); the strict statements follow because `acceptA` accepts fewer
  histories.  No invariant and no well-formedness is needed: the strict statements carry `hwf` and do not use it.
-/
import AJ.Proofs.LaxA
namespace AJ.Proofs.HistA
open AJ.Run

theorem startJobs_ph (st : StA) (S : List Nat) (k : Nat) :
    (startJobs st S).ph k = if k ∈ S ∧ st.ph k = .idle then .queued else st.ph k := rfl

@[simp] theorem startJobs_rflag (st : StA) (S : List Nat) : (startJobs st S).rflag = st.rflag := rfl
@[simp] theorem startJobs_pc (st : StA) (S : List Nat) : (startJobs st S).pc = st.pc := rfl
@[simp] theorem release_ph (c : Cfg) (st : StA) (j : Nat) : (release c st j).ph = st.ph := rfl
@[simp] theorem release_rflag (c : Cfg) (st : StA) (j : Nat) : (release c st j).rflag = st.rflag := rfl
@[simp] theorem release_pc (c : Cfg) (st : StA) (j : Nat) : (release c st j).pc = st.pc := rfl

@[simp] theorem beginRun_rflag (c : Cfg) (st : StA) (s : Nat) : (beginRun c st s).rflag = st.rflag := by
  unfold beginRun; split <;> rfl

theorem beginRun_pc (c : Cfg) (st : StA) (s k : Nat) :
    (beginRun c st s).pc k = if k = s then (if (c.children s).isEmpty then .over else .loop) else st.pc k := by
  unfold beginRun
  split <;> simp [setAt]

/-- the task does not exist yet or still waits for a slot: the body has not begun -/
def early (p : Ph) : Bool :=
  match p with
  | .idle => true
  | .queued => true
  | _ => false

/-- `e` leaves the result `r` in the task of `j`: the body of `j` returns or raises, the run of `j` ends, or `j` is a
    scheduler without jobs, whose run is over as it begins -/
def Produces (c : Cfg) (j : Nat) (e : EvA) (r : Res) : Prop :=
  (∃ ok, e = .bodyEnd j ok ∧ r = if ok then .retOwn else .exc (.byJob j)) ∨ e = .finish j (some r) ∨
  (r = .retBool true ∧
    (e = .grant j ∧ c.isSched j = true ∧ c.children j = [] ∨ e = .runBegin ∧ j = 0 ∧ c.children 0 = []))

theorem finishes_iff {c : Cfg} {j : Nat} {e : EvA} : finishes c j e = true ↔ ∃ r, Produces c j e r := by
  cases e
  case bodyEnd k ok => cases ok <;> simp [finishes, Produces]
  case finish k r => cases r <;> simp [finishes, Produces]
  all_goals simp [finishes, Produces, and_assoc]

section step
variable {c : Cfg} {st st' : StA} {e : EvA} (h : StepA c st e st')
include h

theorem produces_spec (j : Nat) (r : Res) (hp : Produces c j e r) :
    st'.ph j = .done r ∧ (c.isSched j = true → st'.pc j = .over) := by
  rcases hp with ⟨ok, rfl, rfl⟩ | rfl | ⟨rfl, ⟨rfl, hs, he⟩ | ⟨rfl, rfl, he⟩⟩
  · cases h
    next hs _ _ => exact ⟨setAt_self .., fun hs' => by rw [hs] at hs'; cases hs'⟩
  · cases h
    · exact ⟨rfl, fun _ => rfl⟩
    · exact ⟨setAt_self .., fun _ => setAt_self ..⟩
  · cases h
    · simp_all
    · exact ⟨setAt_self .., fun _ => setAt_self ..⟩
    · contradiction
  · cases h
    · exact ⟨rfl, fun _ => rfl⟩
    · contradiction

theorem finishes_pc (s : Nat) (hs : c.isSched s = true) (hf : finishes c s e = true) :
    st'.pc s = .over :=
  let ⟨r, hr⟩ := finishes_iff.1 hf
  (produces_spec h s r hr).2 hs

theorem step_done (j : Nat) (r : Res) : st'.ph j = .done r ↔ st.ph j = .done r ∨ Produces c j e r := by
  constructor
  · intro hd
    match ph_cases h j with
    | .same h1 => exact .inl (h1 ▸ hd)
    | .created (ph := h1) .. | .cancelAcked (ph := h1) .. => rw [h1] at hd; cases hd
    | .topBegins (ev := hev) (top := hj) (ph := h1) .. =>
      rw [h1] at hd; split at hd <;> cases hd
      next he => exact .inr (.inr (.inr ⟨rfl, .inr ⟨hev, hj, he⟩⟩))
    | .granted (ev := hev) (ph := h1) .. =>
      rw [h1] at hd; split at hd <;> cases hd
      next hs => exact .inr (.inr (.inr ⟨rfl, .inl ⟨hev, hs⟩⟩))
    | .bodyEnds (ok := ok) (ev := hev) (ph := h1) .. => rw [h1] at hd; cases hd; exact .inr (.inl ⟨ok, hev, rfl⟩)
    | .finished (ev := hev) (ph := h1) .. =>
      rw [h1] at hd; exact .inr (.inr (.inl (finPh_eq_done.1 hd ▸ hev)))
  · rintro (hd | hp)
    · rw [ph_final h (.inl (by rw [hd]; rfl)), hd]
    · exact (produces_spec h j r hp).1

theorem step_isDone (j : Nat) : isDone st' j = (isDone st j || finishes c j e) := by
  rw [Bool.eq_iff_iff]
  simp only [isDone, Bool.or_eq_true, isDone_iff, finishes_iff, step_done h, exists_or]

theorem step_rflag (j : Nat) : st'.rflag j = (st.rflag j || begins j e) := by
  cases h
  case runBeginEmpty | runBegin | grantJob | grantEmpty | grantSched =>
    rcases setAt_cases st.rflag _ true j with ⟨hj, h1⟩ | ⟨hj, h1⟩
    · exact h1.trans (by simp [begins, hj, Ne.symm hj])
    · exact h1.trans (by simp [begins, hj])
  all_goals exact (Bool.or_false _).symm

theorem step_begins (j : Nat) (hb : begins j e = true) : early (st.ph j) = true ∧ early (st'.ph j) = false := by
  cases e <;> simp only [begins, beq_iff_eq, Bool.false_eq_true] at hb <;> subst hb <;> cases h <;>
    simp [early, startJobs, *]

theorem step_early (j : Nat) (he : early (st'.ph j) = true) : early (st.ph j) = true := by
  match ph_cases h j with
  | .same h1 => rwa [← h1]
  | .created (was := h1) .. | .topBegins (was := h1) .. | .granted (was := h1) .. => rw [h1]; rfl
  | .bodyEnds (ph := h1) .. | .cancelAcked (ph := h1) .. => rw [h1] at he; cases he
  | .finished (r := r) (ph := h1) .. => cases r <;> rw [h1] at he <;> cases he

theorem step_leave_idle (k : Nat) (hk : k ≠ 0) (hi : st.ph k = .idle) (hn : st'.ph k ≠ .idle) :
    st'.pc (c.parent k) ≠ .notBegun ∧ ∀ r ∈ c.req k, isDone st' r = true := by
  match ph_cases h k with
  | .same h1 => exact absurd (h1.trans hi) hn
  | .topBegins (top := h1) .. => exact absurd h1 hk
  | .granted (was := h1) .. | .bodyEnds (was := h1) .. | .finished (was := h1) ..
  | .cancelAcked (was := .inl h1) .. | .cancelAcked (was := .inr ⟨h1, _⟩) .. => rw [hi] at h1; cases h1
  | .created (parent := hp) (reqs := hr) .. =>
    refine ⟨?_, fun r hr' => by rw [step_isDone h r, isDone, hr r hr']; rfl⟩
    rcases hp with hp | ⟨rfl, hp, _⟩ | ⟨rfl, hs, _⟩
    · exact h.begun _ (by simp [hp])
    · rw [hp]; cases h <;> simp [startJobs]
    · cases h with
      | grantJob _ _ _ _ _ hs' => rw [hs'] at hs; cases hs
      | grantEmpty | grantSched => simp [startJobs]

end step

theorem finishedIn_snoc (c : Cfg) (evs : List EvA) (e : EvA) (j : Nat) :
    finishedIn c (evs ++ [e]) j = (finishedIn c evs j || finishes c j e) := by
  simp [finishedIn, List.any_append]

theorem begunIn_snoc (evs : List EvA) (e : EvA) (j : Nat) :
    begunIn (evs ++ [e]) j = (begunIn evs j || begins j e) := by
  simp [begunIn, List.any_append]

theorem beginCount_snoc (evs : List EvA) (e : EvA) (j : Nat) :
    beginCount (evs ++ [e]) j = beginCount evs j + (if begins j e = true then 1 else 0) := by
  simp only [beginCount, List.filter_append, List.length_append]
  by_cases hb : begins j e = true <;> simp [List.filter, hb]

/-- relates a history accepted from the initial state to the state it leads to -/
structure Ghost (c : Cfg) (evs : List EvA) (st : StA) : Prop where
  done : ∀ j, isDone st j = finishedIn c evs j
  run : ∀ j, st.rflag j = begunIn evs j
  pc : ∀ s, st.pc s ≠ .notBegun → begunIn evs s = true
  once : ∀ j, beginCount evs j ≤ 1 ∧ (beginCount evs j = 1 → early (st.ph j) = false)
  /-- the `childIdle` and `reqsDone` fields of `CoreA.InvA`, proved here directly -/
  started : ∀ k, k ≠ 0 → st.ph k ≠ .idle →
    st.pc (c.parent k) ≠ .notBegun ∧ ∀ r ∈ c.req k, isDone st r = true

theorem ghost_init (c : Cfg) : Ghost c [] StA.init where
  done := by intro j; simp [isDone, StA.init, Ph.isDone, finishedIn]
  run := by intro j; simp [StA.init, begunIn]
  pc := by intro s hs; simp [StA.init] at hs
  once := by intro j; simp [beginCount]
  started := by intro k _ h; simp [StA.init] at h

theorem ghost_step {c : Cfg} {evs : List EvA} {st st' : StA} {e : EvA}
    (g : Ghost c evs st) (h : StepA c st e st') : Ghost c (evs ++ [e]) st' where
  done j := by rw [finishedIn_snoc, step_isDone h j, g.done j]
  run j := by rw [begunIn_snoc, step_rflag h j, g.run j]
  pc s hs := by
    rw [begunIn_snoc]
    rcases step_pc h s hs with h1 | h1
    · simp [g.pc s h1]
    · simp [h1]
  once j := by
    rw [beginCount_snoc]
    have ⟨h1, h2⟩ := g.once j
    -- a second `begins j` would find `j` no longer early; after a first one `j` is not early any more
    have hb := step_begins h j
    have he := step_early h j
    cases hbe : begins j e <;> cases he' : early (st'.ph j) <;> simp_all <;> omega
  started k hk hn := by
    by_cases hi : st.ph k = .idle
    · exact step_leave_idle h k hk hi hn
    · have ⟨h1, h2⟩ := g.started k hk hi
      exact ⟨h.begun _ h1, fun r hr => by rw [step_isDone h r, h2 r hr]; rfl⟩

theorem Ghost.once_of_begun {c : Cfg} {evs : List EvA} {st : StA} (g : Ghost c evs st) {j : Nat}
    (h : st.rflag j = true) : beginCount evs j = 1 := by
  rw [g.run j] at h
  obtain ⟨e, he, hb⟩ := List.any_eq_true.1 h
  have hpos : 0 < beginCount evs j := List.length_pos_of_mem (List.mem_filter.2 ⟨he, hb⟩)
  have := (g.once j).1
  omega

end AJ.Proofs.HistA

namespace AJ.Proofs.LaxA
open AJ.Run AJ.Proofs.HistA

theorem ghostL_reach (c : Cfg) (evs : List EvA) (st : StA) (h : acceptAL c StA.init evs = some st) :
    Ghost c evs st :=
  (isRunAL c).induction h (ghost_init c) fun _ _ _ _ _ g hs => ghost_step g (stepAL_iff.1 hs)

theorem before_grant {c : Cfg} {evs : List EvA} {j : Nat} {st : StA}
    (h : acceptAL c StA.init (evs ++ [.grant j]) = some st) :
    ∃ st0, Ghost c evs st0 ∧ j ≠ 0 ∧ st0.ph j ≠ .idle := by
  obtain ⟨st0, h0, hstep⟩ := (isRunAL c).snoc_some.1 h
  have hg := (stepAL_iff.1 hstep).grant_inv
  exact ⟨st0, ghostL_reach c evs st0 h0, Nat.ne_of_gt hg.1, by simp [hg.2.2.1]⟩

/-- C01 without timing assumption -/
theorem requirements_first (c : Cfg) (evs : List EvA) (j : Nat) (st : StA)
    (h : acceptAL c StA.init (evs ++ [.grant j]) = some st) :
    ∀ r ∈ c.req j, finishedIn c evs r = true := by
  obtain ⟨st0, g, hj, hq⟩ := before_grant h
  intro r hr
  rw [← g.done r]
  exact (g.started j hj hq).2 r hr

theorem parent_first (c : Cfg) (evs : List EvA) (j : Nat) (st : StA)
    (h : acceptAL c StA.init (evs ++ [.grant j]) = some st) :
    begunIn evs (c.parent j) = true := by
  obtain ⟨st0, g, hj, hq⟩ := before_grant h
  exact g.pc _ (g.started j hj hq).1

/-- C02 without timing assumption -/
theorem at_most_once (c : Cfg) (evs : List EvA) (st : StA)
    (h : acceptAL c StA.init evs = some st) (j : Nat) : beginCount evs j ≤ 1 :=
  ((ghostL_reach c evs st h).once j).1

/-- C14 without timing assumption -/
theorem done_iff_finished (c : Cfg) (evs : List EvA) (st : StA)
    (h : acceptAL c StA.init evs = some st) (j : Nat) :
    isDone st j = true ↔ finishedIn c evs j = true := by
  rw [(ghostL_reach c evs st h).done j]

theorem running_iff_begun (c : Cfg) (evs : List EvA) (st : StA)
    (h : acceptAL c StA.init evs = some st) (j : Nat) :
    isRunning st j = true ↔ begunIn evs j = true := by
  unfold isRunning
  rw [(ghostL_reach c evs st h).run j]

end AJ.Proofs.LaxA

namespace AJ.Proofs.HistA
open AJ.Run AJ.Proofs.LaxA

theorem ghost_reach (c : Cfg) (evs : List EvA) (st : StA) (h : acceptA c StA.init evs = some st) :
    Ghost c evs st :=
  ghostL_reach c evs st (acceptA_sub_acceptAL c evs _ _ h)

/-- C14 (truth): `is_done()` holds exactly when the body finished by returning or raising -/
theorem done_iff_finished (c : Cfg) (hwf : c.wf = true) (evs : List EvA) (st : StA)
    (h : acceptA c StA.init evs = some st) (j : Nat) :
    isDone st j = true ↔ finishedIn c evs j = true :=
  LaxA.done_iff_finished c evs st (acceptA_sub_acceptAL c evs _ _ h) j

/-- C14: `is_running()` holds exactly when the body has begun -/
theorem running_iff_begun (c : Cfg) (hwf : c.wf = true) (evs : List EvA) (st : StA)
    (h : acceptA c StA.init evs = some st) (j : Nat) :
    isRunning st j = true ↔ begunIn evs j = true :=
  LaxA.running_iff_begun c evs st (acceptA_sub_acceptAL c evs _ _ h) j

/-- C01: in every accepted history, when the body of `j` begins each of its requirements has finished
    (returned or raised; for a nested scheduler: its whole run is over) -/
theorem requirements_first (c : Cfg) (hwf : c.wf = true) (evs : List EvA) (j : Nat) (st : StA)
    (h : acceptA c StA.init (evs ++ [.grant j]) = some st) :
    ∀ r ∈ c.req j, finishedIn c evs r = true :=
  LaxA.requirements_first c evs j st (acceptA_sub_acceptAL c _ _ _ h)

/-- C01 (nesting): a job of a nested scheduler begins only after the run of that scheduler began
    (hence, by `requirements_first` applied to that prefix, after everything the scheduler requires) -/
theorem parent_first (c : Cfg) (hwf : c.wf = true) (evs : List EvA) (j : Nat) (st : StA)
    (h : acceptA c StA.init (evs ++ [.grant j]) = some st) :
    begunIn evs (c.parent j) = true :=
  LaxA.parent_first c evs j st (acceptA_sub_acceptAL c _ _ _ h)

/-- C02: within one run no body is entered more than once -/
theorem at_most_once (c : Cfg) (hwf : c.wf = true) (evs : List EvA) (st : StA)
    (h : acceptA c StA.init evs = some st) (j : Nat) : beginCount evs j ≤ 1 :=
  LaxA.at_most_once c evs st (acceptA_sub_acceptAL c evs _ _ h) j

end AJ.Proofs.HistA
