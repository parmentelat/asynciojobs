/-
  Layer A: the result / exception recorded for a job is the one of the event that finished it (C14 "result() is
  the object its body returned, raised_exception() the exception object it raised, None otherwise"), and a task that
  finished cancelled stays so.  Proved for the lax model `acceptAL` (the `_lax` theorems, which the C14 tie replays on
  `c.noWindow`); the strict statements follow.
-/
import AJ.Proofs.HistA
namespace AJ.Proofs.ResA
open AJ.Run AJ.Proofs.HistA

theorem done_reach (c : Cfg) (evs : List EvA) (st : StA) (h : acceptAL c StA.init evs = some st) (j : Nat) (r : Res) :
    st.ph j = .done r ↔ ∃ e ∈ evs, Produces c j e r := by
  refine (isRunAL c).induction (P := fun evs st => st.ph j = .done r ↔ ∃ e ∈ evs, Produces c j e r) h
    (by simp [StA.init]) fun pre s1 e s2 _ ih hs => ?_
  rw [step_done (stepAL_iff.1 hs), ih]
  simp [or_and_right, exists_or]

theorem accept_static {c : Cfg} {evs : List EvA} {st st' : StA} (h : acceptAL c st evs = some st') :
    (∀ j ok, EvA.bodyEnd j ok ∈ evs → c.isSched j = false) ∧
    (∀ s r, EvA.finish s r ∈ evs → c.isSched s = true) := by
  refine (isRunAL c).induction (P := fun evs _ => (∀ j ok, EvA.bodyEnd j ok ∈ evs → c.isSched j = false) ∧
    (∀ s r, EvA.finish s r ∈ evs → c.isSched s = true)) h (by simp) fun pre s1 e s2 _ ih hs => ?_
  have hs := stepAL_iff.1 hs
  refine ⟨fun j ok hm => ?_, fun s r hm => ?_⟩ <;> rcases List.mem_append.1 hm with hm | hm
  · exact ih.1 j ok hm
  · cases List.mem_singleton.1 hm; cases hs; assumption
  · exact ih.2 s r hm
  · cases List.mem_singleton.1 hm; cases hs <;> assumption

end AJ.Proofs.ResA

namespace AJ.Proofs.Gap3
open AJ.Run AJ.Proofs.ResA AJ.Proofs.LaxA

/-- C14 (`result()` is the object the body returned), without the timing assumption -/
theorem result_own_iff_lax (c : Cfg) (evs : List EvA) (st : StA) (h : acceptAL c StA.init evs = some st) (j : Nat)
    (hatom : c.isSched j = false) :
    st.ph j = .done .retOwn ↔ EvA.bodyEnd j true ∈ evs := by
  have hst := (accept_static h).2
  rw [done_reach c evs st h]
  constructor
  · rintro ⟨e, he, hp⟩
    rcases hp with ⟨ok, rfl, hr⟩ | rfl | ⟨hr, _⟩
    · cases ok <;> simp at hr; exact he
    · rw [hst _ _ he] at hatom; cases hatom
    · cases hr
  · exact fun he => ⟨_, he, .inl ⟨true, rfl, rfl⟩⟩

/-- C14 (`raised_exception()` is the exception object the body raised), without the timing assumption -/
theorem exception_own_iff_lax (c : Cfg) (evs : List EvA) (st : StA) (h : acceptAL c StA.init evs = some st) (j : Nat) :
    st.ph j = .done (.exc (.byJob j)) ∧ c.isSched j = false ↔ EvA.bodyEnd j false ∈ evs := by
  have ⟨hst1, hst2⟩ := accept_static h
  rw [done_reach c evs st h]
  constructor
  · rintro ⟨⟨e, he, hp⟩, hatom⟩
    rcases hp with ⟨ok, rfl, hr⟩ | rfl | ⟨hr, _⟩
    · cases ok <;> simp at hr; exact he
    · rw [hst2 _ _ he] at hatom; cases hatom
    · cases hr
  · exact fun he => ⟨⟨_, he, .inl ⟨false, rfl, rfl⟩⟩, hst1 _ _ he⟩

/-- C14 (a job that is not done carries neither result nor exception: `raised_exception()` is None and `result()`
    raises), without the timing assumption -/
theorem no_result_unless_done_lax (c : Cfg) (evs : List EvA) (st : StA) (h : acceptAL c StA.init evs = some st) (j : Nat)
    (hnf : finishedIn c evs j = false) : ∀ r, st.ph j ≠ .done r := by
  intro r hr
  have hd := (ghostL_reach c evs st h).done j
  rw [hnf] at hd
  simp [isDone, hr, Ph.isDone] at hd

/-- C14 (the value a nested scheduler's task holds is the one its run ended with), without the timing assumption -/
theorem sched_result_iff_lax (c : Cfg) (evs : List EvA) (st : StA) (h : acceptAL c StA.init evs = some st) (s : Nat)
    (r : Res) (hs : c.isSched s = true) (hne : c.children s ≠ []) :
    st.ph s = .done r ↔ EvA.finish s (some r) ∈ evs := by
  have hst := (accept_static h).1
  rw [done_reach c evs st h]
  constructor
  · rintro ⟨e, he, hp⟩
    rcases hp with ⟨ok, rfl, _⟩ | rfl | ⟨_, ⟨_, _, hemp⟩ | ⟨_, rfl, hemp⟩⟩
    · rw [hst _ _ he] at hs; cases hs
    · exact he
    · exact absurd hemp hne
    · exact absurd hemp hne
  · exact fun he => ⟨_, he, .inr (.inl rfl)⟩

/-- C14 ("a cancelled job is never reported done"), step form: no event of layer A changes the phase of a job whose
    task finished cancelled. -/
theorem cancelled_final (c : Cfg) (st st' : StA) (e : EvA) (h : stepA c st e = some st') (j : Nat)
    (hc : st.ph j = .cancelled) : st'.ph j = .cancelled := by
  rw [ph_final (.of_stepA h) (.inr hc), hc]

/-- C14: along any continuation of a (lax) history, the task of a job that finished cancelled stays cancelled -/
theorem cancelled_stays (c : Cfg) (more : List EvA) (st st' : StA) (j : Nat) (hc : st.ph j = .cancelled)
    (h' : acceptAL c st more = some st') : st'.ph j = .cancelled :=
  (isRunAL c).invariant h' hc fun _ _ _ hc hs => (ph_final (stepAL_iff.1 hs) (.inr hc)).trans hc

/-- C14 ("a cancelled job is never reported done"), history form, without the timing assumption: once the task of
    `j` has finished cancelled, `is_done()` is false of `j` after any continuation of the history. -/
theorem never_done_after_cancel (c : Cfg) (evs more : List EvA) (st st' : StA) (j : Nat)
    (h : acceptAL c StA.init evs = some st) (hc : st.ph j = .cancelled)
    (h' : acceptAL c st more = some st') : isDone st' j = false := by
  simp [isDone, cancelled_stays c more st st' j hc h', Ph.isDone]

/-- the same for the strict model `acceptA` -/
theorem never_done_after_cancel_strict (c : Cfg) (evs more : List EvA) (st st' : StA) (j : Nat)
    (h : acceptA c StA.init evs = some st) (hc : st.ph j = .cancelled)
    (h' : acceptA c st more = some st') : isDone st' j = false :=
  never_done_after_cancel c evs more st st' j (acceptA_sub_acceptAL c evs _ _ h) hc
    (acceptA_sub_acceptAL c more _ _ h')

end AJ.Proofs.Gap3

namespace AJ.Proofs.ResA
open AJ.Run AJ.Proofs.LaxA AJ.Proofs.Gap3

theorem result_own_iff (c : Cfg) (evs : List EvA) (st : StA) (h : acceptA c StA.init evs = some st) (j : Nat)
    (hatom : c.isSched j = false) :
    st.ph j = .done .retOwn ↔ EvA.bodyEnd j true ∈ evs :=
  result_own_iff_lax c evs st (acceptA_sub_acceptAL c evs _ _ h) j hatom

theorem exception_own_iff (c : Cfg) (evs : List EvA) (st : StA) (h : acceptA c StA.init evs = some st) (j : Nat) :
    st.ph j = .done (.exc (.byJob j)) ∧ c.isSched j = false ↔ EvA.bodyEnd j false ∈ evs :=
  exception_own_iff_lax c evs st (acceptA_sub_acceptAL c evs _ _ h) j

theorem no_result_unless_done (c : Cfg) (evs : List EvA) (st : StA) (h : acceptA c StA.init evs = some st) (j : Nat)
    (hnf : finishedIn c evs j = false) : ∀ r, st.ph j ≠ .done r :=
  no_result_unless_done_lax c evs st (acceptA_sub_acceptAL c evs _ _ h) j hnf

theorem sched_result_iff (c : Cfg) (evs : List EvA) (st : StA) (h : acceptA c StA.init evs = some st) (s : Nat) (r : Res)
    (hs : c.isSched s = true) (hne : c.children s ≠ []) :
    st.ph s = .done r ↔ EvA.finish s (some r) ∈ evs :=
  sched_result_iff_lax c evs st (acceptA_sub_acceptAL c evs _ _ h) s r hs hne

end AJ.Proofs.ResA
