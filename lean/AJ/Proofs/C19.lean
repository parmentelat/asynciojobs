/-
  C19 — the construction API builds exactly the documented requirement edges, and registers the jobs in the scheduler
  it is given.
-/
import AJ.Proofs.C19Aux
namespace AJ.Proofs.C19

/-- `requires(*args)` (no remove): never fails, adds exactly the jobs the arguments stand for, minus the job
    itself; nobody else's requirements, no sequence and no scheduler changes -/
theorem requires_add (h : Heap) (j : Nat) (args : List Arg) :
    (reqArgs j false h args).2 = none ∧
    (∀ x, x ∈ (reqArgs j false h args).1.req j ↔ (x ∈ h.req j ∨ (x ∈ flats h args ∧ x ≠ j))) ∧
    (∀ k, k ≠ j → (reqArgs j false h args).1.req k = h.req k) ∧
    (reqArgs j false h args).1.seqJobs = h.seqJobs ∧ (reqArgs j false h args).1.mem = h.mem ∧
    (reqArgs j false h args).1.seqSched = h.seqSched := by
  rw [(req_add_eq j).2 h args]
  exact ⟨rfl, fun x => by simp [mem_unionNew], fun k hk => setReq_req_ne _ _ _ _ hk, rfl, rfl, rfl⟩

theorem requires_add_nodup (h : Heap) (j : Nat) (args : List Arg) (hnd : (h.req j).Nodup) :
    ((reqArgs j false h args).1.req j).Nodup := by
  rw [(req_add_eq j).2 h args, setReq_req_self]
  exact nodup_unionNew _ _ hnd

/-- `requires(*args, remove=True)` removes exactly the named requirements, `KeyError` iff one is absent when
    its turn comes -/
theorem requires_remove (h : Heap) (j : Nat) (args : List Arg) :
    match removeAll (h.req j) (flats h args) with
    | some l => reqArgs j true h args = (h.setReq j l, none) ∨
                (l = h.req j ∧ reqArgs j true h args = (h, none))
    | none => (reqArgs j true h args).2 = some Err.keyError := by
  have := (req_remove_aux j).2 h args
  split
  · rename_i l hl; exact Or.inl (this.1 l hl)
  · rename_i hl; exact this.2 hl

/-- a job never requires itself: invariant of every statement -/
theorem no_self (h : Heap) (op : Op) (hinv : ∀ j, j ∉ h.req j) :
    ∀ j, j ∉ (interp h op).1.req j := by
  have hset : ∀ (h : Heap) (j : Nat), (∀ k, k ∉ h.req k) → ∀ k, k ∉ (h.setReq j []).req k := by
    intro h j hinv k
    by_cases hk : k = j
    · subst hk; simp
    · rw [setReq_req_ne _ _ _ _ hk]; exact hinv k
  cases op with
  | newJob j r sch => rw [interp_newJob, register_req]; exact reqArg_noself j false _ r (hset h j hinv)
  | newSched s items r sch =>
    rw [interp_newSched, register_req]; exact reqArg_noself s false _ r (hset (h.setMem s _) s hinv)
  | requires j args remove => exact reqArgs_noself j remove h args hinv
  | newSeq q items r sch => rw [interp_newSeq, register_req]; exact seqHeap_noself h q items r hinv
  | append q items =>
    by_cases hi : items = []
    · subst hi; exact hinv
    · rw [interp_append h q items hi, register_req]
      exact givePending_noself _ q (chain_noself h _ _ hinv)
  | seqRequires q args =>
    simp only [interp]
    split
    · exact hinv
    · exact reqArgs_noself _ false h args hinv
  | add s x => exact hinv
  | update s xs => exact hinv
  | removeJob s j => simp only [interp]; split <;> exact hinv

/-- `chain` links every job to its predecessor in the list (when different) -/
theorem chain_links (h : Heap) (prev : Option Nat) (l : List Nat) :
    ∀ p ∈ pairs (prev.toList ++ l), p.1 ≠ p.2 → p.1 ∈ (chain h prev l).req p.2 :=
  fun _ hp hne => (chain_req h prev l _ _).2 (Or.inr ⟨hp, hne⟩)

/-- and adds nothing else -/
theorem chain_only (h : Heap) (prev : Option Nat) (l : List Nat) (x y : Nat)
    (hy : y ∈ (chain h prev l).req x) : y ∈ h.req x ∨ ((y, x) ∈ pairs (prev.toList ++ l) ∧ y ≠ x) :=
  (chain_req h prev l x y).1 hy

/-- what `Sequence.__init__` and `append` have in common: the jobs `L` are chained behind `prev`, then the job `first`
    receives the jobs `P` -/
theorem chain_give_spec (g : Heap) (prev first : Option Nat) (L P : List Nat) (req' : Nat → List Nat)
    (hreq : ∀ x y, y ∈ req' x ↔ (y ∈ (chain g prev L).req x ∨ (first = some x ∧ y ∈ P ∧ y ≠ x))) :
    (∀ p ∈ pairs (prev.toList ++ L), p.1 ≠ p.2 → p.1 ∈ req' p.2) ∧
    (∀ j0, first = some j0 → ∀ x ∈ P, x ≠ j0 → x ∈ req' j0) ∧
    (∀ x y, y ∈ req' x → y ∈ g.req x ∨ ((y, x) ∈ pairs (prev.toList ++ L) ∧ y ≠ x) ∨
        (first = some x ∧ y ∈ P ∧ y ≠ x)) ∧
    (∀ x y, y ∈ g.req x → y ∈ req' x) := by
  have h3 : ∀ x y, y ∈ req' x ↔ ((y ∈ g.req x ∨ ((y, x) ∈ pairs (prev.toList ++ L) ∧ y ≠ x)) ∨
      (first = some x ∧ y ∈ P ∧ y ≠ x)) := fun x y => by rw [hreq, chain_req]
  exact ⟨fun _ hp hne => (h3 _ _).2 (Or.inl (Or.inr ⟨hp, hne⟩)),
    fun _ hj0 _ hx hne => (h3 _ _).2 (Or.inr ⟨hj0, hx, hne⟩),
    fun x y hy => or_assoc.1 ((h3 x y).1 hy),
    fun x y hy => (h3 x y).2 (Or.inl (Or.inl hy))⟩

/-- `Sequence(*items, required=r)`: the sequence holds the flattened jobs in order; each requires its
    predecessor; the first one received `required=`; no other requirement was added, none removed;
    when there is no job, `required=` is remembered for the first job to come (and only then) -/
theorem newSeq_spec (h : Heap) (q : Nat) (items : List Arg) (r : Arg) (sch : Option Nat) :
    let h' := (interp h (.newSeq q items r sch)).1
    let js := flattenSeq h items
    (interp h (.newSeq q items r sch)).2 = none ∧
    h'.seqJobs q = js ∧
    (∀ p ∈ pairs js, p.1 ≠ p.2 → p.1 ∈ h'.req p.2) ∧
    (∀ j0, js.head? = some j0 → ∀ x ∈ flat (h.setSeqJobs q js) r, x ≠ j0 → x ∈ h'.req j0) ∧
    (∀ x y, y ∈ h'.req x → y ∈ h.req x ∨ ((y, x) ∈ pairs js ∧ y ≠ x) ∨
        (js.head? = some x ∧ y ∈ flat (h.setSeqJobs q js) r ∧ y ≠ x)) ∧
    (∀ x y, y ∈ h.req x → y ∈ h'.req x) ∧
    (js = [] → h'.seqPending q = flat (h.setSeqJobs q js) r) ∧
    (js ≠ [] → h'.seqPending q = []) ∧
    (∀ k, k ≠ q → h'.seqPending k = h.seqPending k) := by
  intro h' js
  have hreq : ∀ x y, y ∈ h'.req x ↔
      (y ∈ (chain ((h.setSeqJobs q js).setSeqPending q []) none js).req x ∨
        (js.head? = some x ∧ y ∈ flat (h.setSeqJobs q js) r ∧ y ≠ x)) := by
    intro x y
    simp only [h', interp_newSeq, register_req]
    exact seqHeap_req h q items r x y
  have hsp : h'.seqPending = (seqHeap h q items r).seqPending := by
    simp only [h', interp_newSeq, register_seqPending, setSeqSched_seqPending]
  obtain ⟨hp1, hp2⟩ := seqHeap_seqPending h q items r
  obtain ⟨c1, c2, c3, c4⟩ := chain_give_spec _ none _ js _ _ hreq
  refine ⟨by rw [interp_newSeq], ?_, c1, c2, c3, c4, ?_, ?_, ?_⟩
  · simp only [h', interp_newSeq, register_seqJobs]
    show (seqHeap h q items r).seqJobs q = js
    rw [seqHeap_seqJobs]; simp [Heap.setSeqJobs, js]
  · intro hnil; rw [hsp, hp1, if_pos hnil]
  · intro hne; rw [hsp, hp1, if_neg hne]
  · intro k hk; rw [hsp, hp2 k hk]

/-- `q.append(*items)` with at least one argument: the new jobs are chained behind the last one; the
    first job of the sequence (a new one when the sequence had none) receives the requirements that
    were pending, which are pending no more; nothing else is added, nothing removed -/
theorem append_spec (h : Heap) (q : Nat) (items : List Arg) (hne : items ≠ []) :
    let h' := (interp h (.append q items)).1
    let new := flattenSeq h items
    (interp h (.append q items)).2 = none ∧
    h'.seqJobs q = h.seqJobs q ++ new ∧
    (∀ p ∈ pairs ((h.seqJobs q).getLast?.toList ++ new), p.1 ≠ p.2 → p.1 ∈ h'.req p.2) ∧
    (∀ j0, (h.seqJobs q ++ new).head? = some j0 → ∀ x ∈ h.seqPending q, x ≠ j0 → x ∈ h'.req j0) ∧
    (∀ x y, y ∈ h'.req x → y ∈ h.req x ∨
        ((y, x) ∈ pairs ((h.seqJobs q).getLast?.toList ++ new) ∧ y ≠ x) ∨
        ((h.seqJobs q ++ new).head? = some x ∧ y ∈ h.seqPending q ∧ y ≠ x)) ∧
    (∀ x y, y ∈ h.req x → y ∈ h'.req x) ∧
    (h.seqJobs q ++ new ≠ [] → h'.seqPending q = []) ∧
    (h.seqJobs q ++ new = [] → h'.seqPending q = h.seqPending q) ∧
    (∀ k, k ≠ q → h'.seqPending k = h.seqPending k) := by
  intro h' new
  -- the heap after `self.jobs += new_jobs`
  let h2 := (chain h (h.seqJobs q).getLast? new).setSeqJobs q (h.seqJobs q ++ new)
  have e : interp h (.append q items) = (register (givePending h2 q) (h.seqSched q) new, none) :=
    interp_append h q items hne
  have h2req : h2.req = (chain h (h.seqJobs q).getLast? new).req := rfl
  have h2sj : h2.seqJobs q = h.seqJobs q ++ new := by simp [h2, Heap.setSeqJobs]
  have h2sp : h2.seqPending = h.seqPending := by
    show (chain h (h.seqJobs q).getLast? new).seqPending = _
    exact chain_seqPending _ _ _
  have hreq : ∀ x y, y ∈ h'.req x ↔
      (y ∈ (chain h (h.seqJobs q).getLast? new).req x ∨
        ((h.seqJobs q ++ new).head? = some x ∧ y ∈ h.seqPending q ∧ y ≠ x)) := by
    intro x y
    simp only [h', e, register_req]
    rw [givePending_req, h2req, h2sj, h2sp]
  have hsp : h'.seqPending = (givePending h2 q).seqPending := by
    simp only [h', e, register_seqPending]
  obtain ⟨c1, c2, c3, c4⟩ := chain_give_spec h _ _ new _ _ hreq
  refine ⟨by rw [e], ?_, c1, c2, c3, c4, ?_, ?_, ?_⟩
  · simp only [h', e, register_seqJobs]
    rw [givePending_seqJobs]; exact h2sj
  · intro hnn; rw [hsp, givePending_seqPending, if_pos ⟨rfl, h2sj ▸ hnn⟩]
  · intro hnil; rw [hsp, givePending_seqPending, if_neg (fun c => c.2 (h2sj ▸ hnil)), h2sp]
  · intro k hk; rw [hsp, givePending_seqPending, if_neg (fun c => hk c.1), h2sp]

theorem newSeq_seqJobs_ne (h : Heap) (q : Nat) (items : List Arg) (r : Arg) (sch : Option Nat)
    (k : Nat) (hk : k ≠ q) : (interp h (.newSeq q items r sch)).1.seqJobs k = h.seqJobs k := by
  rw [interp_newSeq, register_seqJobs]
  show (seqHeap h q items r).seqJobs k = _
  rw [seqHeap_seqJobs]; simp [Heap.setSeqJobs, hk]

theorem append_seqJobs_ne (h : Heap) (q : Nat) (items : List Arg) (k : Nat) (hk : k ≠ q) :
    (interp h (.append q items)).1.seqJobs k = h.seqJobs k := by
  simp only [interp]
  split
  · rfl
  · simp only [register_seqJobs, givePending_seqJobs]
    show (if k = q then _ else (chain h _ _).seqJobs k) = _
    rw [if_neg hk, chain_seqJobs]

/-- the first job that `append` brings to a sequence without jobs receives what the sequence was
    given before (`required=` of the constructor, `requires()`), itself excepted; nothing stays pending -/
theorem pending_given (h : Heap) (q : Nat) (items : List Arg) (j0 : Nat) (rest : List Nat)
    (hq : h.seqJobs q = []) (hfl : flattenSeq h items = j0 :: rest) :
    (∀ x ∈ h.seqPending q, x ≠ j0 → x ∈ (interp h (.append q items)).1.req j0) ∧
    (interp h (.append q items)).1.seqPending q = [] := by
  have hne : items ≠ [] := by
    intro e; subst e; simp [flattenSeq] at hfl
  obtain ⟨-, -, -, hgiven, -, -, hnone, -⟩ := append_spec h q items hne
  rw [hq, hfl] at hgiven hnone
  exact ⟨hgiven j0 rfl, hnone (List.cons_ne_nil _ _)⟩

/-- `q.requires(*args)` on a sequence without jobs: no requirement changes; the jobs the arguments
    stand for (at that moment) are added, in order, to what is pending for `q`; nothing else changes -/
theorem pending_kept (h : Heap) (q : Nat) (args : List Arg) (hq : h.seqJobs q = []) :
    (interp h (.seqRequires q args)).2 = none ∧
    (interp h (.seqRequires q args)).1.req = h.req ∧
    (interp h (.seqRequires q args)).1.seqPending q = h.seqPending q ++ flats h args ∧
    (∀ k, k ≠ q → (interp h (.seqRequires q args)).1.seqPending k = h.seqPending k) ∧
    (interp h (.seqRequires q args)).1.seqJobs = h.seqJobs ∧
    (interp h (.seqRequires q args)).1.mem = h.mem ∧
    (interp h (.seqRequires q args)).1.seqSched = h.seqSched := by
  have e : interp h (.seqRequires q args)
      = (h.setSeqPending q (h.seqPending q ++ resolves h args), none) := by
    simp only [interp, hq]
  rw [e]
  refine ⟨rfl, rfl, ?_, ?_, rfl, rfl, rfl⟩
  · rw [(resolve_eq_flat h).2]; simp
  · intro k hk; exact setSeqPending_seqPending_ne _ _ _ _ hk

/-- requirements are pending only for sequences without jobs: invariant of every statement -/
theorem pending_inv (h : Heap) (op : Op) (hinv : ∀ q, h.seqJobs q ≠ [] → h.seqPending q = []) :
    ∀ q, (interp h op).1.seqJobs q ≠ [] → (interp h op).1.seqPending q = [] := by
  -- the statements that touch one sequence `q`: pending for `q` only when `q` has no job, the others as before
  have one : ∀ (h' : Heap) (q : Nat), (h'.seqJobs q ≠ [] → h'.seqPending q = []) →
      (∀ k, k ≠ q → h'.seqPending k = h.seqPending k) → (∀ k, k ≠ q → h'.seqJobs k = h.seqJobs k) →
      ∀ q', h'.seqJobs q' ≠ [] → h'.seqPending q' = [] := by
    intro h' q hnone hother hjobs q'
    by_cases hq : q' = q
    · subst hq; exact hnone
    · rw [hother q' hq, hjobs q' hq]; exact hinv q'
  cases op with
  | newJob j r sched =>
    simp only [interp_newJob, register_seqJobs, register_seqPending, reqArg_seqJobs, reqArg_seqPending]; exact hinv
  | newSched s items r sched =>
    simp only [interp_newSched, register_seqJobs, register_seqPending, reqArg_seqJobs, reqArg_seqPending]; exact hinv
  | requires j args remove => simp only [interp, reqArgs_seqJobs, reqArgs_seqPending]; exact hinv
  | newSeq q items required sched =>
    obtain ⟨-, hsj, -, -, -, -, -, hnone, hother⟩ := newSeq_spec h q items required sched
    exact one _ q (fun hj => hnone (hsj ▸ hj)) hother (newSeq_seqJobs_ne h q items required sched)
  | append q items =>
    by_cases hi : items = []
    · subst hi; exact hinv
    · obtain ⟨-, hsj, -, -, -, -, hnone, -, hother⟩ := append_spec h q items hi
      exact one _ q (fun hj => hnone (hsj ▸ hj)) hother (append_seqJobs_ne h q items)
  | seqRequires q args =>
    simp only [interp]
    split
    · rename_i hj0
      exact one _ q (fun hj => absurd hj0 hj) (fun k hk => setSeqPending_seqPending_ne _ _ _ _ hk) (fun _ _ => rfl)
    · rw [reqArgs_seqJobs, reqArgs_seqPending]; exact hinv
  | add s x => exact hinv
  | update s xs => exact hinv
  | removeJob s j => simp only [interp]; split <;> exact hinv

/-- defect D15: a requirement given to a sequence that has no job yet reaches the first job -/
example :
    (run Heap.empty [.newJob 0 .none none, .newJob 1 .none none, .newSeq 0 [] (.job 1) none,
      .append 0 [.job 0]]).1.req 0 = [1] := by
  decide

/-- `scheduler=`, `add()`, `update()` register every job involved, once -/
theorem register_spec (h : Heap) (s : Nat) (js : List Nat) (hnd : (h.mem s).Nodup) :
    (∀ x, x ∈ (register h (some s) js).mem s ↔ (x ∈ h.mem s ∨ x ∈ js)) ∧
    ((register h (some s) js).mem s).Nodup ∧
    (∀ k, k ≠ s → (register h (some s) js).mem k = h.mem k) := by
  refine ⟨?_, ?_, ?_⟩
  · intro x; simp [register, Heap.setMem, mem_unionNew]
  · simpa [register, Heap.setMem] using nodup_unionNew _ js hnd
  · intro k hk; simp [register, Heap.setMem, hk]

end AJ.Proofs.C19

namespace AJ.Proofs.Gap4

/-- `s.add(x)` registers the jobs `x` stands for (`Sequence._flatten`) in `s`: it is `register`, whose effect
    `C19.register_spec` describes (C19, "add() registers") -/
theorem add_mem (h : Heap) (s : Nat) (x : Arg) :
    interp h (.add s x) = (register h (some s) (flattenSeq h [x]), none) := by
  rfl

/-- `s.update(xs)` registers the jobs `xs` stand for in `s`: it is `register` (C19, "update() registers") -/
theorem update_mem (h : Heap) (s : Nat) (xs : List Arg) :
    interp h (.update s xs) = (register h (some s) (flattenSeq h xs), none) := by
  rfl

/-- `Sequence(*items, scheduler=s)` registers exactly the jobs of the sequence in `s`, once each, touches no other
    scheduler, and remembers `s` for later `append`s (C19, "scheduler= registers", through the statement itself) -/
theorem newSeq_mem (h : Heap) (q s : Nat) (items : List Arg) (r : Arg) (hnd : (h.mem s).Nodup) :
    let h' := (interp h (.newSeq q items r (some s))).1
    (∀ y, y ∈ h'.mem s ↔ (y ∈ h.mem s ∨ y ∈ flattenSeq h items)) ∧ (h'.mem s).Nodup ∧
    (∀ k, k ≠ s → h'.mem k = h.mem k) ∧ h'.seqSched q = some s := by
  intro h'
  have hm : ((C19.seqHeap h q items r).setSeqSched q (some s)).mem = h.mem := C19.seqHeap_mem h q items r
  obtain ⟨r1, r2, r3⟩ := C19.register_spec ((C19.seqHeap h q items r).setSeqSched q (some s)) s (flattenSeq h items)
    (by rw [hm]; exact hnd)
  simp only [h', C19.interp_newSeq]
  rw [hm] at r1 r3
  exact ⟨r1, r2, r3, by rw [C19.register_seqSched]; simp [Heap.setSeqSched]⟩

/-- `q.append(*items)` registers the new jobs in the scheduler the sequence was created with (exactly them, once
    each) and touches no other scheduler (C19, "append registers", through the statement itself) -/
theorem append_mem (h : Heap) (q : Nat) (items : List Arg) (hne : items ≠ []) :
    let h' := (interp h (.append q items)).1
    (∀ s, h.seqSched q = some s → (h.mem s).Nodup →
        (∀ y, y ∈ h'.mem s ↔ (y ∈ h.mem s ∨ y ∈ flattenSeq h items)) ∧ (h'.mem s).Nodup) ∧
    (∀ k, h.seqSched q ≠ some k → h'.mem k = h.mem k) := by
  intro h'
  simp only [h', C19.interp_append h q items hne]
  generalize hg : givePending _ q = g
  have hm : g.mem = h.mem := by
    rw [← hg, C19.givePending_mem]
    exact C19.chain_mem _ _ _
  refine ⟨fun s hs hnd => ?_, fun k hk => ?_⟩
  · rw [hs]
    obtain ⟨r1, r2, _⟩ := C19.register_spec g s (flattenSeq h items) (hm ▸ hnd)
    rw [hm] at r1
    exact ⟨r1, r2⟩
  · cases hs : h.seqSched q with
    | none => exact congrFun hm k
    | some s' =>
      have hks : k ≠ s' := fun e => hk (e ▸ hs)
      simp only [register, Heap.setMem, if_neg hks, hm]

/-- `AbstractJob(required=r, scheduler=sch)`: never fails; the new job requires exactly the jobs `r` stands for
    (itself excepted), nobody else's requirements change, and the job is registered in `sch`
    (C19, the constructor through the statement itself) -/
theorem newJob_spec (h : Heap) (j : Nat) (r : Arg) (sch : Option Nat) :
    let h' := (interp h (.newJob j r sch)).1
    (interp h (.newJob j r sch)).2 = none ∧
    (∀ x, x ∈ h'.req j ↔ (x ∈ flat h r ∧ x ≠ j)) ∧ (∀ k, k ≠ j → h'.req k = h.req k) ∧
    (∀ s, sch = some s → ∀ y, y ∈ h'.mem s ↔ (y ∈ h.mem s ∨ y = j)) := by
  intro h'
  have hfl : flat (h.setReq j []) r = flat h r := (C19.flat_congr h (h.setReq j []) rfl).1 r
  simp only [h', C19.interp_newJob, C19.register_req]
  refine ⟨trivial, fun x => by rw [C19.reqArg_false_req, hfl]; simp, fun k hk => ?_, ?_⟩
  · rw [C19.reqArg_req_ne _ _ _ _ _ hk, C19.setReq_req_ne _ _ _ _ hk]
  · rintro s rfl y
    simp [register, Heap.setMem, mem_unionNew, C19.reqArg_mem, Heap.setReq]

/-- `q.requires(*args)` on a sequence that has jobs is `requires` on its first job, whose effect
    `C19.requires_add` describes (C19, "a sequence's requirements go to its first job") -/
theorem seqRequires_first (h : Heap) (q j0 : Nat) (rest : List Nat) (args : List Arg)
    (hq : h.seqJobs q = j0 :: rest) :
    interp h (.seqRequires q args) = reqArgs j0 false h args := by
  simp [interp, hq]

end AJ.Proofs.Gap4
