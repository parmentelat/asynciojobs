/-
  Configurations, concrete runs and `example`s only: the non-vacuity tests (and the counter-example `badCfg`) of the
  C01–C05 theorems of this namespace, which stand in CoreA, CoreB, ExitB, ProgB, LiveB, LatB and LatC.
-/
import AJ.Proofs.AdmB
namespace AJ.Proofs.Gap1
open AJ.Run AJ.Full AJ.Proofs.ExitB AJ.Proofs.BoundB AJ.Proofs.LiveB AJ.Proofs.AdmB

/-- `timeout_exit_unfinished` on `ExitB.tmoCfg` / `tmoEvs`: the reaction to the completion of job `1`, in the instant of
    the deadline, takes the timeout exit (`evs = tmoEvs.take 5`, `e = react 0`) -/
example : tmoCfg.wf = true ∧ (∃ k ∈ tmoCfg.children 0, tmoCfg.forever k = false) ∧
    ((acceptB tmoCfg StB.init (tmoEvs.take 5)).map fun st0 =>
      (st0.pcB 0, (stepB tmoCfg st0 (.react 0)).map fun st => st.pcB 0)) = some (.loop, some (.tidy .timeout)) := by
  refine ⟨by decide, ⟨2, by decide, by decide⟩, by decide⟩

def tmCfg : Cfg :=
  { n := 2, parent := fun _ => 0, isSched := fun j => j == 0, req := fun _ => [],
    critical := fun _ => false, forever := fun _ => false, window := fun _ => 0,
    timeout := fun j => if j = 0 then some 2 else none, sdTimeout := fun _ => none, topPure := true }

def tmEvs : List EvB :=
  [.runBegin, .grant 1, .tick 2, .timeoutFire 0, .cancelAck 1, .tidyReturn 0 0, .hEnd 1, .sdWaitReturn 0 0]

/-- the hypotheses of `verdict_true_iff` hold of `tmCfg` / `tmEvs`: the run is over, it returned `False` (it timed out) -/
example : tmCfg.wf = true ∧ 0 < tmCfg.n ∧ tmCfg.isSched 0 = true ∧ tmCfg.children 0 ≠ [] ∧
    (acceptB tmCfg StB.init tmEvs).map (fun st => (st.pcB 0, st.a.ph 0, st.failT 0)) =
      some (.over, .done (.retBool false), true) := by decide

def okEvs : List EvB :=
  [.runBegin, .grant 1, .tick 1, .bodyEnd 1 true, .waitReturn 0, .react 0, .tidyReturn 0 0, .hEnd 1, .sdWaitReturn 0 0]

/-- same tree, the job ends in time: the run is over and returned `True`; job `1` was granted once
    (`true_means_each_once`) -/
example : (acceptB tmCfg StB.init okEvs).map (fun st => (st.pcB 0, st.a.ph 0, st.failT 0, st.failC 0)) =
      some (.over, .done (.retBool true), false, false) ∧
    (okEvs.filter fun e => match e with | .grant j => j == 1 | _ => false).length = 1 := by decide

def tmEv (i : Nat) : EvB := if h : i < tmEvs.length then tmEvs[i] else .tick 1

def tmSt : Nat → StB
  | 0 => StB.init
  | i + 1 => (stepB tmCfg (tmSt i) (tmEv i)).getD (tmSt i)

theorem tmEv_late (i : Nat) (h : 8 ≤ i) : tmEv i = .tick 1 :=
  dif_neg (Nat.not_lt.2 h)

theorem tmSt_step (i : Nat) : stepB tmCfg (tmSt i) (tmEv i) = some (tmSt (i + 1)) :=
  lasso_step 8 (fun _ => rfl) (by decide) tmEv_late (by decide) i

/-- `tmEvs`, then `tick 1` for ever: the body of job `1` never ends by itself -/
def tmRun : InfRun tmCfg := { st := tmSt, ev := tmEv, init := rfl, step := tmSt_step }

theorem tmRun_late : ∀ i, 8 ≤ i → isTick (tmRun.ev i) = true := tick_tail (r := tmRun) tmEv_late

/-- the body of job `1` is only owed an end once its cancellation is requested (index 3): it acknowledges at index 4 -/
theorem tmRun_weakFair : WeakFairBodies (fun _ => false) tmRun :=
  weakFair_of_late tmRun_late (by decide)

theorem tmRun_fairHandlers : FairHandlers tmRun :=
  fairHandlers_of_late tmRun_late (by decide)

/-- the hypotheses of `timeout_run_ends` hold of this run, which ends by its timeout, although the tree is not
    admissible for that environment (`admissible_run_ends` does not apply): job `1` is not `forever` and never ends by
    itself; between index 2 and index 3 it runs un-cancelled and nothing is owed to it -/
example : tmCfg.wf = true ∧ tmCfg.timeout 0 = some 2 ∧ (∃ i, (tmRun.st i).pcB 0 ≠ .notBegun) ∧
    WeakFairBodies (fun _ => false) tmRun ∧ FairHandlers tmRun ∧ ¬ Admissible tmCfg (fun _ => false) ∧
    (tmRun.st 2).a.ph 1 = .running ∧ (tmRun.st 2).a.creq 1 = false ∧ (tmRun.st 8).pcB 0 = .over := by
  refine ⟨by decide, rfl, ⟨1, by decide⟩, tmRun_weakFair, tmRun_fairHandlers, ?_, by decide, by decide, by decide⟩
  intro hadm
  have := hadm.neverForever 1 (by decide) rfl rfl
  cases this

/-- `critical_raise_urgent`: window 1, the critical job `1` raises while job `2` is queued: after `bodyEnd 1 false`
    the run is in its loop with a critical job that raised -/
def urgCfg : Cfg :=
  { n := 3, parent := fun _ => 0, isSched := fun j => j == 0, req := fun _ => [],
    critical := fun j => j == 1, forever := fun _ => false, window := fun j => if j = 0 then 1 else 0,
    timeout := fun _ => none, sdTimeout := fun _ => none, topPure := true }

def urgEvs : List EvB := [.runBegin, .grant 1, .tick 1, .bodyEnd 1 false]

example : urgCfg.wf = true ∧ 1 ∈ urgCfg.children 0 ∧ urgCfg.critical 1 = true ∧
    (acceptB urgCfg StB.init urgEvs).map (fun st => (st.pcB 0, st.a.ph 1, stepB urgCfg st (.tick 1) |>.isSome)) =
      some (.loop, .done (.exc (.byJob 1)), false) := by decide

/-- in that instant job `2` is still granted a slot (its body begins after the critical raise, before the exit
    step), which is why "from the raise nothing starts" is not a theorem; once the run has left its loop
    (`no_body_begins_outside_loop`) it is not -/
example : (acceptB urgCfg StB.init (urgEvs ++ [.grant 2, .waitReturn 0, .react 0])).map
      (fun st => (st.pcB 0, st.a.ph 2, st.a.creq 2)) = some (.tidy .critical, .running, true) := by decide

/-- hypotheses of `no_body_begins_outside_loop` / `no_normal_end_after_exit`: same scenario without the
    hand-over: the run has left its loop, job `2` is queued and cancelled: neither granted nor ended normally -/
example : (acceptB urgCfg StB.init (urgEvs ++ [.waitReturn 0, .react 0])).map
      (fun st => ((st.pcB 0).exiting, st.a.ph 2, (stepB urgCfg st (.grant 2)).isSome,
        (stepB urgCfg st (.cancelAck 2)).isSome)) = some (true, .queued, false, true) := by decide

/-- without `c.parent 0 = 0` the statement of `ancestors_requirements_first` is false: here `parent 0 = 2`,
    so that job `2` (which requires `1`) is an "ancestor" of `1`, and `1` begins first -/
def badCfg : Cfg :=
  { n := 3, parent := fun j => if j = 0 then 2 else 0, isSched := fun j => j == 0, req := fun j => if j = 2 then [1] else [],
    critical := fun _ => false, forever := fun _ => false, window := fun _ => 0,
    timeout := fun _ => none, sdTimeout := fun _ => none, topPure := true }

example : (acceptAL badCfg StA.init ([.runBegin] ++ [.grant 1])).isSome = true ∧ Anc badCfg 2 1 ∧ (2 : Nat) ≠ 0 ∧
    1 ∈ badCfg.req 2 ∧ finishedIn badCfg [.runBegin] 1 = false := by
  refine ⟨by decide, ?_, by decide, by decide, by decide⟩
  exact Anc.up (Anc.up (Anc.self 2))

/-- `ancestors_requirements_first` at depth 2: scheduler `2` (requires job `1`) contains scheduler `3`, which contains job `4` -/
def deepCfg : Cfg :=
  { n := 5, parent := fun j => if j = 3 then 2 else if j = 4 then 3 else 0, isSched := fun j => j == 0 || j == 2 || j == 3,
    req := fun j => if j = 2 then [1] else [],
    critical := fun _ => false, forever := fun _ => false, window := fun _ => 0,
    timeout := fun _ => none, sdTimeout := fun _ => none, topPure := true }

example : deepCfg.wf = true ∧ Anc deepCfg 2 4 ∧
    (acceptAL deepCfg StA.init
      ([.runBegin, .grant 1, .bodyEnd 1 true, .waitReturn 0, .react 0 false [], .grant 2, .grant 3] ++ [.grant 4])).isSome
      = true := by
  refine ⟨by decide, Anc.up (Anc.up (Anc.self 2)), by decide⟩

/-- `success_unreported_same_instant`: success although the critical (forever) job `2` raised, unreported, in the
    instant of the exit -/
def tieCfg : Cfg :=
  { n := 3, parent := fun _ => 0, isSched := fun j => j == 0, req := fun _ => [],
    critical := fun j => j == 2, forever := fun j => j == 2, window := fun _ => 0,
    timeout := fun _ => none, sdTimeout := fun _ => none, topPure := true }

def tieEvs : List EvB := [.runBegin, .grant 1, .grant 2, .tick 1, .bodyEnd 1 true, .waitReturn 0, .bodyEnd 2 false]

example : tieCfg.wf = true ∧ 2 ∈ tieCfg.children 0 ∧ tieCfg.critical 2 = true ∧
    ((acceptB tieCfg StB.init tieEvs).map fun st0 =>
      (st0.pcB 0, st0.a.ph 2, st0.a.deliv 2, (stepB tieCfg st0 (.react 0)).map fun st => st.pcB 0)) =
      some (.loop, .done (.exc (.byJob 2)), false, some (.tidy .success)) := by decide

end AJ.Proofs.Gap1
