/-
  C18 — graph surgery keeps exactly the documented jobs, preserves precedence and leaves a closed, acyclic scheduler.
  `bypass` is read through `bypass_ok` and the membership lemmas `mem_bypass_*`; `keep_only*` are a restriction of the members followed by
  `sanitize` (`sanitize_setMem_flat`).
-/
import AJ.Proofs.C16
import AJ.Proofs.C17
namespace AJ.Proofs.C18

/-- everything `bypass` does: the members, the requirement lists (as lists) and the kinds of the result -/
theorem bypass_ok {t t' : T} {s j : Nat} (h : bypass t s j = .ok t') :
    j ∈ t.mem s ∧ t'.mem s = (t.mem s).filter (· ≠ j) ∧ (∀ k, k ≠ s → t'.mem k = t.mem k) ∧
    (∀ d, t'.req d = if d ∈ t.mem s ∧ j ∈ t.req d
        then (unionNew (t.req d) ((t.req j).filter (· ≠ d))).filter (· ≠ j) else t.req d) ∧
    t'.isSched = t.isSched := by
  unfold bypass at h
  split at h
  next hj =>
    injection h with h
    subst h
    exact ⟨hj, by simp, fun k hk => by simp [hk], fun d => by simp only [List.mem_filter, decide_eq_true_eq], rfl⟩
  next => cases h

theorem bypass_nonmember (t : T) (s j : Nat) (h : j ∉ t.mem s) : bypass t s j = .error .valueError := by
  unfold bypass
  simp [h]

/-- removes exactly `j` -/
theorem bypass_mem (t t' : T) (s j : Nat) (h : bypass t s j = .ok t') :
    t'.mem s = (t.mem s).filter (· ≠ j) ∧ ∀ k, k ≠ s → t'.mem k = t.mem k := by
  obtain ⟨_, h1, h2, _⟩ := bypass_ok h
  exact ⟨h1, h2⟩

theorem mem_bypass_mem {t t' : T} {s j : Nat} (h : bypass t s j = .ok t') (x : Nat) :
    x ∈ t'.mem s ↔ x ∈ t.mem s ∧ x ≠ j := by
  rw [(bypass_mem t t' s j h).1]
  simp

theorem mem_bypass_req {t t' : T} {s j : Nat} (h : bypass t s j = .ok t') {x : Nat} (hx : x ∈ t.mem s) (y : Nat) :
    y ∈ t'.req x ↔ y ≠ j ∧ (y ∈ t.req x ∨ (j ∈ t.req x ∧ y ∈ t.req j ∧ y ≠ x)) := by
  rw [(bypass_ok h).2.2.2.1 x]
  by_cases hjx : j ∈ t.req x
  · simp [hx, hjx, mem_unionNew, and_comm]
  · simp only [hjx, and_false, if_false, false_and, or_false]
    exact ⟨fun hy => ⟨fun e => hjx (e ▸ hy), hy⟩, And.right⟩

theorem bypass_isSched {t t' : T} {s j : Nat} (h : bypass t s j = .ok t') : t'.isSched = t.isSched :=
  (bypass_ok h).2.2.2.2

theorem bypass_edge_keep {t t' : T} {s j : Nat} (h : bypass t s j = .ok t') {x y : Nat}
    (e : Edge t s x y) (hx : x ≠ j) (hy : y ≠ j) : Edge t' s x y :=
  ⟨(mem_bypass_req h e.2.1 y).2 ⟨hy, Or.inl e.1⟩, (mem_bypass_mem h x).2 ⟨e.2.1, hx⟩,
    (mem_bypass_mem h y).2 ⟨e.2.2, hy⟩⟩

theorem bypass_edge_new {t t' : T} {s j : Nat} (hac : Acyclic t s) (h : bypass t s j = .ok t')
    {x u : Nat} (e1 : Edge t s x j) (e2 : Edge t s j u) : Edge t' s x u := by
  have hxj : x ≠ j := fun hh => hac j (Reach.single (hh ▸ e1))
  have huj : u ≠ j := fun hh => hac j (Reach.single (hh ▸ e2))
  have hux : u ≠ x := fun hh => hac x (Reach.tail (Reach.single e1) (hh ▸ e2))
  exact ⟨(mem_bypass_req h e1.2.1 u).2 ⟨huj, Or.inr ⟨e1.1, e2.1, hux⟩⟩,
    (mem_bypass_mem h x).2 ⟨e1.2.1, hxj⟩, (mem_bypass_mem h u).2 ⟨e2.2.2, huj⟩⟩

theorem bypass_edge_back {t t' : T} {s j : Nat} (h : bypass t s j = .ok t')
    {x y : Nat} (e : Edge t' s x y) : Reach t s x y := by
  obtain ⟨hyx, hxm, hym⟩ := e
  have hjm := (bypass_ok h).1
  have hx := (mem_bypass_mem h x).1 hxm
  have hy := (mem_bypass_mem h y).1 hym
  obtain ⟨_, h1 | ⟨hjx, h1, _⟩⟩ := (mem_bypass_req h hx.1 y).1 hyx
  · exact .single ⟨h1, hx.1, hy.1⟩
  · exact .tail (.single ⟨hjx, hx.1, hjm⟩) ⟨h1, hjm, hy.1⟩

theorem bypass_reach_fwd {t t' : T} {s j : Nat} (hac : Acyclic t s) (h : bypass t s j = .ok t')
    {a b : Nat} (hr : Reach t s a b) (ha : a ≠ j) :
    (b ≠ j → Reach t' s a b) ∧ (b = j → ∀ u, Edge t s j u → Reach t' s a u) := by
  -- a path that stops at `j` has no image in `t'`; what the induction carries for it is that each extension by an
  -- edge `j → u` has one (`bypass_edge_new`)
  induction hr with
  | @single y e =>
    constructor
    · intro hy; exact Reach.single (bypass_edge_keep h e ha hy)
    · intro hy u eu; subst hy; exact Reach.single (bypass_edge_new hac h e eu)
  | @tail y z hxy e ih =>
    constructor
    · intro hz
      by_cases hy : y = j
      · subst hy; exact ih.2 rfl z e
      · exact Reach.tail (ih.1 hy) (bypass_edge_keep h e hy hz)
    · intro hz u eu
      subst hz
      have hy : y ≠ z := fun hh => hac z (Reach.single (hh ▸ e))
      exact Reach.tail (ih.1 hy) (bypass_edge_new hac h e eu)

set_option linter.unusedVariables false in
/-- the must-run-before relation between the remaining jobs is unchanged (`hcl` is not used) -/
theorem bypass_reach (t t' : T) (s j : Nat) (hcl : Closed t s) (hac : Acyclic t s)
    (h : bypass t s j = .ok t') (a b : Nat) (ha : a ≠ j) (hb : b ≠ j) :
    Reach t' s a b ↔ Reach t s a b :=
  ⟨Reach.mono fun _ _ e => bypass_edge_back h e, fun hr => (bypass_reach_fwd hac h hr ha).1 hb⟩

theorem bypass_closed (t t' : T) (s j : Nat) (hcl : Closed t s) (h : bypass t s j = .ok t') :
    Closed t' s := by
  intro x hx y hy
  have hjm := (bypass_ok h).1
  have hx' := (mem_bypass_mem h x).1 hx
  rw [mem_bypass_mem h y]
  obtain ⟨hyj, h1 | ⟨_, h1, _⟩⟩ := (mem_bypass_req h hx'.1 y).1 hy
  · exact ⟨hcl x hx'.1 y h1, hyj⟩
  · exact ⟨hcl j hjm y h1, hyj⟩

theorem bypass_acyclic (t t' : T) (s j : Nat) (hcl : Closed t s) (hac : Acyclic t s)
    (h : bypass t s j = .ok t') : Acyclic t' s := by
  intro x hr
  have hx := (mem_bypass_mem h x).1 (Reach.mem_left hr)
  exact hac x ((bypass_reach t t' s j hcl hac h x x hx.2 hx.2).1 hr)

/-- the flat use of `keep_only*` the property speaks about: the jobs of `s` are atomic, so `sanitize` has nothing
    to recurse into -/
def FlatAt (t : T) (s : Nat) : Prop := ∀ k ∈ t.mem s, t.isSched k = false

/-- `sanitize` after `setMem`, on atomic members: only `s` is gone through -/
theorem sanitize_setMem_flat (t : T) (fuel s : Nat) (m : List Nat)
    (hat : ∀ k ∈ m, t.isSched k = false) :
    (sanitize (t.setMem s m) (fuel + 1) s).1.mem s = m ∧
    (∀ x ∈ m, (sanitize (t.setMem s m) (fuel + 1) s).1.req x = (t.req x).filter (· ∈ m)) ∧
    (∀ x, x ∉ m → (sanitize (t.setMem s m) (fuel + 1) s).1.req x = t.req x) := by
  have hms : (t.setMem s m).mem s = m := if_pos rfl
  have hv : ∀ s', C16.Vis (t.setMem s m) (fuel + 1) s s' → (t.setMem s m).mem s' = m := by
    rintro s' (rfl | ⟨j, hj, hjs, _⟩)
    · exact hms
    · cases (hat j (hms ▸ hj)).symm.trans hjs
  refine ⟨by rw [(C16.sanitize_frame ..).1, hms], fun x hx => ?_, fun x hx => ?_⟩ <;>
    rw [C16.sanitize_req_eq _ x _ _ s (C16.Frame.refl _)]
  · exact C16.keep_mem m fun y _ => ⟨fun h => hms ▸ h s (Or.inl rfl) (hms.symm ▸ hx),
      fun hy s' h _ => (hv s' h).symm ▸ hy⟩
  · exact C16.keep_true fun y _ s' h hx' => absurd (hv s' h ▸ hx') hx

theorem keepOnly_spec (t : T) (fuel s : Nat) (R : List Nat) (hflat : FlatAt t s) :
    (keepOnly t (fuel + 1) s R).mem s = (t.mem s).filter (· ∈ R) ∧
    (∀ x ∈ (keepOnly t (fuel + 1) s R).mem s,
        (keepOnly t (fuel + 1) s R).req x = (t.req x).filter (· ∈ (keepOnly t (fuel + 1) s R).mem s)) ∧
    (∀ x, x ∉ (keepOnly t (fuel + 1) s R).mem s → (keepOnly t (fuel + 1) s R).req x = t.req x) := by
  have hat : ∀ k ∈ (t.mem s).filter (· ∈ R), t.isSched k = false :=
    fun k hk => hflat k (List.mem_filter.1 hk).1
  obtain ⟨h1, h2, h3⟩ := sanitize_setMem_flat t fuel s _ hat
  unfold keepOnly
  rw [h1]
  exact ⟨rfl, h2, h3⟩

def preserved (t : T) (s : Nat) (starts ends : List Nat) (ks ke : Bool) : List Nat :=
  let downwards := if starts.isEmpty then t.mem s else downstream t s starts
  let upwards := if ends.isEmpty then t.mem s else upstream t s ends
  let preserved := downwards.filter (· ∈ upwards)
  let preserved := if ks then unionNew preserved starts else preserved
  if ke then unionNew preserved ends else preserved

theorem keepOnlyBetween_eq (t : T) (fuel s : Nat) (starts ends : List Nat) (ks ke : Bool) :
    keepOnlyBetween t fuel s starts ends ks ke =
      (sanitize (t.setMem s (preserved t s starts ends ks ke)) fuel s).1 := rfl

theorem ReachL.mem_right {t : T} {s : Nat} {up : Bool} {a x : Nat} (h : ReachL t s up a x) :
    x ∈ t.mem s := by
  cases h with
  | single l => exact l.1
  | tail _ l => exact l.1

theorem mem_side (t : T) (s : Nat) (up : Bool) (l : List Nat) (x : Nat) :
    x ∈ (if l.isEmpty then t.mem s else closure t s up l) ↔
      ((l = [] ∧ x ∈ t.mem s) ∨ ∃ a ∈ l, ReachL t s up a x) := by
  cases l with
  | nil => simp
  | cons a l => simp [C17.closure_iff]

theorem mem_preserved (t : T) (s : Nat) (starts ends : List Nat) (ks ke : Bool) (x : Nat) :
    x ∈ preserved t s starts ends ks ke ↔
      (((starts = [] ∧ x ∈ t.mem s) ∨ ∃ a ∈ starts, ReachL t s false a x) ∧
       ((ends = [] ∧ x ∈ t.mem s) ∨ ∃ e ∈ ends, ReachL t s true e x)) ∨
      (ks = true ∧ x ∈ starts) ∨ (ke = true ∧ x ∈ ends) := by
  unfold preserved downstream upstream
  cases ks <;> cases ke <;>
    simp only [Bool.false_eq_true, ↓reduceIte, mem_unionNew, List.mem_filter, decide_eq_true_eq, mem_side,
      false_and, true_and, or_false, false_or, or_assoc]

theorem preserved_sub (t : T) (s : Nat) (starts ends : List Nat) (ks ke : Bool)
    (hst : ∀ a ∈ starts, a ∈ t.mem s) (hen : ∀ a ∈ ends, a ∈ t.mem s) :
    ∀ x ∈ preserved t s starts ends ks ke, x ∈ t.mem s := by
  intro x hx
  rcases (mem_preserved ..).1 hx with ⟨⟨_, h⟩ | ⟨_, _, h⟩, _⟩ | ⟨_, h⟩ | ⟨_, h⟩
  · exact h
  · exact ReachL.mem_right h
  · exact hst x h
  · exact hen x h

theorem between_spec (t : T) (fuel s : Nat) (starts ends : List Nat) (ks ke : Bool)
    (hflat : FlatAt t s) (hst : ∀ a ∈ starts, a ∈ t.mem s) (hen : ∀ a ∈ ends, a ∈ t.mem s) :
    (keepOnlyBetween t (fuel + 1) s starts ends ks ke).mem s = preserved t s starts ends ks ke ∧
    ∀ x ∈ preserved t s starts ends ks ke, (keepOnlyBetween t (fuel + 1) s starts ends ks ke).req x =
      (t.req x).filter (· ∈ preserved t s starts ends ks ke) :=
  have h := sanitize_setMem_flat t fuel s _ fun k hk => hflat k (preserved_sub t s starts ends ks ke hst hen k hk)
  ⟨h.1, h.2.1⟩

/-- `keep_only_between`: exactly the documented subset … -/
theorem between_mem (t : T) (fuel s : Nat) (starts ends : List Nat) (ks ke : Bool) (x : Nat)
    (hflat : FlatAt t s) (hst : ∀ a ∈ starts, a ∈ t.mem s) (hen : ∀ a ∈ ends, a ∈ t.mem s) :
    x ∈ (keepOnlyBetween t (fuel + 1) s starts ends ks ke).mem s ↔
      (((starts = [] ∧ x ∈ t.mem s) ∨ ∃ a ∈ starts, ReachL t s false a x) ∧
       ((ends = [] ∧ x ∈ t.mem s) ∨ ∃ e ∈ ends, ReachL t s true e x)) ∨
      (ks = true ∧ x ∈ starts) ∨ (ke = true ∧ x ∈ ends) := by
  rw [(between_spec t fuel s starts ends ks ke hflat hst hen).1]
  exact mem_preserved t s starts ends ks ke x

/-- … with exactly the original requirements among kept jobs and none to dropped ones -/
theorem between_req (t : T) (fuel s : Nat) (starts ends : List Nat) (ks ke : Bool)
    (hflat : FlatAt t s) (hst : ∀ a ∈ starts, a ∈ t.mem s) (hen : ∀ a ∈ ends, a ∈ t.mem s) :
    let t' := keepOnlyBetween t (fuel + 1) s starts ends ks ke
    ∀ x ∈ t'.mem s, t'.req x = (t.req x).filter (· ∈ t'.mem s) := by
  obtain ⟨h1, h2⟩ := between_spec t fuel s starts ends ks ke hflat hst hen
  intro t'
  show ∀ x ∈ (keepOnlyBetween t (fuel + 1) s starts ends ks ke).mem s, _ = (t.req x).filter (· ∈ T.mem _ s)
  rwa [h1]

/-- restricting members and requirements to a subset keeps a scheduler closed and acyclic
    (the shape both `keep_only` and `keep_only_between` produce) -/
theorem restrict_closed_acyclic (t t' : T) (s : Nat)
    (hsub : ∀ x ∈ t'.mem s, x ∈ t.mem s)
    (hreq : ∀ x ∈ t'.mem s, t'.req x = (t.req x).filter (· ∈ t'.mem s))
    (hac : Acyclic t s) : Closed t' s ∧ Acyclic t' s := by
  constructor
  · intro x hx y hy
    rw [hreq x hx] at hy
    simpa using (List.mem_filter.1 hy).2
  · intro x hr
    refine hac x (Reach.mono (fun a b e => Reach.single ?_) hr)
    obtain ⟨h1, h2, h3⟩ := e
    rw [hreq a h2] at h1
    exact ⟨(List.mem_filter.1 h1).1, hsub a h2, hsub b h3⟩

theorem keepOnly_isSched (t : T) (fuel s : Nat) (R : List Nat) : (keepOnly t fuel s R).isSched = t.isSched := by
  unfold keepOnly
  rw [(C16.sanitize_frame _ fuel s).2.1]
  rfl

theorem between_isSched (t : T) (fuel s : Nat) (st en : List Nat) (ks ke : Bool) :
    (keepOnlyBetween t fuel s st en ks ke).isSched = t.isSched := by
  rw [keepOnlyBetween_eq, (C16.sanitize_frame _ fuel s).2.1]
  rfl

theorem keepOnly_sub (t : T) (fuel s : Nat) (R : List Nat) (hflat : FlatAt t s) :
    ∀ x ∈ (keepOnly t (fuel + 1) s R).mem s, x ∈ t.mem s :=
  fun _ hx => (List.mem_filter.1 ((keepOnly_spec t fuel s R hflat).1 ▸ hx)).1

theorem between_sub (t : T) (fuel s : Nat) (starts ends : List Nat) (ks ke : Bool)
    (hflat : FlatAt t s) (hst : ∀ a ∈ starts, a ∈ t.mem s) (hen : ∀ a ∈ ends, a ∈ t.mem s) :
    ∀ x ∈ (keepOnlyBetween t (fuel + 1) s starts ends ks ke).mem s, x ∈ t.mem s := by
  rw [(between_spec t fuel s starts ends ks ke hflat hst hen).1]
  exact preserved_sub t s starts ends ks ke hst hen

end AJ.Proofs.C18

namespace AJ.Proofs.Gap4
open AJ.Proofs.C18

/-- C18 ("preserves precedence" corollary, `keep_only`): on a flat acyclic scheduler, `keep_only(R)` leaves a
    scheduler that is closed (no requirement to a dropped job) and acyclic. -/
theorem keepOnly_closed_acyclic (t : T) (fuel s : Nat) (R : List Nat) (hflat : FlatAt t s) (hac : Acyclic t s) :
    Closed (keepOnly t (fuel + 1) s R) s ∧ Acyclic (keepOnly t (fuel + 1) s R) s :=
  C18.restrict_closed_acyclic t _ s (C18.keepOnly_sub t fuel s R hflat) (C18.keepOnly_spec t fuel s R hflat).2.1 hac

/-- C18 ("preserves precedence" corollary, `keep_only_between`): on a flat acyclic scheduler, with `starts` and
    `ends` among its jobs, `keep_only_between` leaves a scheduler that is closed and acyclic. -/
theorem between_closed_acyclic (t : T) (fuel s : Nat) (starts ends : List Nat) (ks ke : Bool)
    (hflat : FlatAt t s) (hst : ∀ a ∈ starts, a ∈ t.mem s) (hen : ∀ a ∈ ends, a ∈ t.mem s) (hac : Acyclic t s) :
    Closed (keepOnlyBetween t (fuel + 1) s starts ends ks ke) s ∧
    Acyclic (keepOnlyBetween t (fuel + 1) s starts ends ks ke) s :=
  C18.restrict_closed_acyclic t _ s (C18.between_sub t fuel s starts ends ks ke hflat hst hen)
    (C18.between_req t fuel s starts ends ks ke hflat hst hen) hac

inductive SOp
  | bypass (j : Nat)
  | keep (R : List Nat)
  | between (st en : List Nat) (ks ke : Bool)

/-- one operation on scheduler `s`; `keep_only_between` is only modelled for `starts` / `ends` taken among the jobs
    of `s` (the side condition of `C18.between_mem`), anything else is rejected here -/
def applyOp (t : T) (fuel s : Nat) : SOp → Except Err T
  | .bypass j => bypass t s j
  | .keep R => .ok (keepOnly t (fuel + 1) s R)
  | .between st en ks ke =>
    if st.all (· ∈ t.mem s) && en.all (· ∈ t.mem s) then .ok (keepOnlyBetween t (fuel + 1) s st en ks ke)
    else .error .valueError

theorem applyOp_step (t t' : T) (fuel s : Nat) (o : SOp) (hflat : FlatAt t s) (hcl : Closed t s) (hac : Acyclic t s)
    (h : applyOp t fuel s o = .ok t') :
    FlatAt t' s ∧ Closed t' s ∧ Acyclic t' s ∧ ∀ x ∈ t'.mem s, x ∈ t.mem s := by
  suffices h : t'.isSched = t.isSched ∧ (∀ x ∈ t'.mem s, x ∈ t.mem s) ∧ Closed t' s ∧ Acyclic t' s from
    ⟨fun k hk => h.1 ▸ hflat k (h.2.1 k hk), h.2.2.1, h.2.2.2, h.2.1⟩
  cases o with
  | bypass j =>
    have h : bypass t s j = .ok t' := h
    exact ⟨C18.bypass_isSched h, fun x hx => ((C18.mem_bypass_mem h x).1 hx).1,
      C18.bypass_closed t t' s j hcl h, C18.bypass_acyclic t t' s j hcl hac h⟩
  | keep R =>
    cases h
    exact ⟨C18.keepOnly_isSched .., C18.keepOnly_sub t fuel s R hflat, keepOnly_closed_acyclic t fuel s R hflat hac⟩
  | between st en ks ke =>
    simp only [applyOp] at h
    split at h
    · next hchk =>
      cases h
      simp only [Bool.and_eq_true, List.all_eq_true, decide_eq_true_eq] at hchk
      exact ⟨C18.between_isSched .., C18.between_sub t fuel s st en ks ke hflat hchk.1 hchk.2,
        between_closed_acyclic t fuel s st en ks ke hflat hchk.1 hchk.2 hac⟩
    · cases h

/-- C18 ("any sequence of operations"): starting from a flat, closed, acyclic scheduler, any sequence of
    `bypass_and_remove` / `keep_only` / `keep_only_between` that does not raise (a `keep_only_between` whose `starts`
    or `ends` are not jobs of the scheduler is rejected by `applyOp`) leaves a closed, acyclic scheduler with no new
    job. -/
theorem ops_closed_acyclic (t t' : T) (fuel s : Nat) (ops : List SOp) (hflat : FlatAt t s) (hcl : Closed t s) (hac : Acyclic t s)
    (h : ops.foldlM (fun a o => applyOp a fuel s o) t = .ok t') :
    Closed t' s ∧ Acyclic t' s ∧ ∀ x ∈ t'.mem s, x ∈ t.mem s := by
  induction ops generalizing t with
  | nil =>
    simp only [List.foldlM_nil] at h
    cases h
    exact ⟨hcl, hac, fun _ hx => hx⟩
  | cons o ops ih =>
    rw [List.foldlM_cons] at h
    cases hmid : applyOp t fuel s o with
    | error e => rw [hmid] at h; cases h
    | ok mid =>
      rw [hmid] at h
      obtain ⟨m1, m2, m3, m4⟩ := applyOp_step t mid fuel s o hflat hcl hac hmid
      obtain ⟨r1, r2, r3⟩ := ih mid m1 m2 m3 h
      exact ⟨r1, r2, fun x hx => m4 x (r3 x hx)⟩

end AJ.Proofs.Gap4
