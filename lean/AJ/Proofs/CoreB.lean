/-
  Layer B of the dynamic model refines layer A; the invariant `InvB` of its reachable states, preserved by every step;
  induction along a history with `InvA` and `InvB` at hand (`inv_induction`, `reach_induction`), which the later
  invariants use.
-/
import AJ.Proofs.StepSd
import AJ.Proofs.CoreA
namespace AJ.Proofs.Gap1
open AJ.Run AJ.Full

/-- the event of the full model is the beginning of the body of `j` (for a scheduler: of its run).  The statement of
    `acceptB_refines_hist` spells this function out, and Lean reuses for it the matcher compiled here
    (`beginsEvB.match_1`): the definition must stand before that theorem, in this form. -/
def beginsEvB (j : Nat) : EvB → Bool := fun e => match e with
  | .grant k => k == j
  | .runBegin => j == 0
  | _ => false

theorem stepB_refines_hist (c : Cfg) (st st' : StB) (e : EvB) (h : stepB c st e = some st') :
    (st'.a = st.a ∧ ∀ j, beginsEvB j e = false) ∨
    ∃ ea, stepA c st.a ea = some st'.a ∧ ∀ j, begins j ea = beginsEvB j e := by
  cases StepB.of_stepB h
  case cancelTidy | cancelShut | cancelShutTidy | tidyShut | hStepDone | hStep | hEnd | hCancelAck | hCancelWait
      | hCancelTidy | sdWaitRelay | sdTimeoutInline | sdTimeoutOther | sdTidyRelay =>
    exact Or.inl ⟨rfl, fun _ => rfl⟩
  case runBegin ha | grantSched ha _ =>
    rw [beginB_a]
    exact Or.inr ⟨_, ha.to_stepA (by intro _ hd; cases hd), fun _ => rfl⟩
  case tick d hq hdl hsd hd hcalm =>
    exact Or.inr ⟨.tick d, stepA_iff.2 ⟨.tick hd, fun _ _ => hcalm⟩, fun _ => rfl⟩
  all_goals exact Or.inr ⟨_, StepA.to_stepA ‹_› (by intro _ hd; cases hd), fun _ => rfl⟩

theorem acceptB_begins (c : Cfg) (evs : List EvB) (st0 st : StB) (h : acceptB c st0 evs = some st) :
    ∃ evsA, acceptA c st0.a evsA = some st.a ∧ ∀ j, beginCount evsA j = (evs.filter (beginsEvB j)).length := by
  induction evs generalizing st0 with
  | nil => cases h; exact ⟨[], rfl, fun _ => rfl⟩
  | cons e es ih =>
    obtain ⟨st1, hs, h⟩ := (isRunB c).cons_some.1 h
    obtain ⟨evsA, hA, hcnt⟩ := ih _ h
    rcases stepB_refines_hist c _ _ _ hs with ⟨heq, hb⟩ | ⟨ea, hea, hb⟩
    · exact ⟨evsA, heq ▸ hA, fun j => by rw [List.filter_cons, hb j, hcnt j]; rfl⟩
    · refine ⟨ea :: evsA, (isRunA c).cons_some.2 ⟨_, hea, hA⟩, fun j => ?_⟩
      have := hcnt j
      rw [beginCount] at this ⊢
      rw [List.filter_cons, List.filter_cons, hb j]
      split <;> simp [this]

/-- C02 (what carries "at most once" from layer A to the full model): every accepted history of the full model
    projects onto an accepted history of layer A in which the body of each job begins exactly as many times (`grant j`;
    `runBegin` for the top-level scheduler) -/
theorem acceptB_refines_hist (c : Cfg) (evs : List EvB) (st0 st : StB) (h : acceptB c st0 evs = some st) :
    ∃ evsA, acceptA c st0.a evsA = some st.a ∧
      ∀ j, beginCount evsA j =
        (evs.filter fun e => match e with | .grant k => k == j | .runBegin => j == 0 | _ => false).length :=
  acceptB_begins c evs st0 st h

end AJ.Proofs.Gap1

namespace AJ.Proofs.CoreB
open AJ.Run AJ.Full AJ.Proofs.CoreA

/-- C10: at layer A a nested scheduler is one job, and every step of layer B is zero or one step of layer A -/
theorem stepB_refines (c : Cfg) (st st' : StB) (e : EvB) (h : stepB c st e = some st') :
    st'.a = st.a ∨ ∃ ea, stepA c st.a ea = some st'.a :=
  (Gap1.stepB_refines_hist c st st' e h).imp And.left fun ⟨ea, h, _⟩ => ⟨ea, h⟩

theorem acceptB_refines (c : Cfg) (evs : List EvB) (st0 st : StB) (h : acceptB c st0 evs = some st) :
    ∃ evsA, acceptA c st0.a evsA = some st.a :=
  let ⟨evsA, h, _⟩ := Gap1.acceptB_begins c evs st0 st h
  ⟨evsA, h⟩

theorem reachA_of_reachB {c : Cfg} {P : StA → Prop} (h0 : P StA.init) (hstep : ∀ a e a', P a → StepA c a e a' → P a')
    {evs : List EvB} {st : StB} (h : acceptB c StB.init evs = some st) : P st.a :=
  (isRunB c).invariant (P := fun st => P st.a) h h0 fun _ _ _ hp hs => by
    rcases (StepB.of_stepB hs).proj with heq | ⟨ea, _, ha⟩
    · rw [heq]; exact hp
    · exact hstep _ _ _ hp ha

theorem invA_of_reachB (c : Cfg) (hwf : c.wf = true) (evs : List EvB) (st : StB)
    (h : acceptB c StB.init evs = some st) : InvA c st.a :=
  reachA_of_reachB (invA_init c) (fun _ _ _ hp ha => hp.step (wf_of hwf) ha) h

theorem runPcA_reach (c : Cfg) (evs : List EvB) (st : StB) (h : acceptB c StB.init evs = some st) : RunPcA c st.a :=
  reachA_of_reachB (fun s _ hr => by simp [StA.init] at hr) (fun _ _ _ hp ha => runPcA_step ha hp) h

/-- the `done` set a pending reaction of `s` is about (empty when none is pending) -/
def rxD (st : StB) (s : Nat) : List Nat := (st.a.rx s).getD []

/-- what holds in every reachable state of layer B (for schedulers `s < c.n`, jobs `0 < k < c.n`); `didSdLoop` and
    `didSdBegun` are there only to make the whole inductive -/
structure InvB (c : Cfg) (st : StB) : Prop where
  pcNotBegun : ∀ s, st.pcB s = .notBegun ↔ st.a.pc s = .notBegun
  pcLoop : ∀ s, st.pcB s = .loop ↔ st.a.pc s = .loop
  pcOver : ∀ s, st.pcB s = .over ↔ st.a.pc s = .over
  loopClean : ∀ s, st.pcB s = .loop → ∀ k ∈ c.children s, st.a.creq k = false ∧ st.a.ph k ≠ .cancelled
  /-- `nb_jobs_done` counts the non-forever jobs reported and reacted to -/
  count : ∀ s, st.pcB s = .loop →
      st.nbDone s = ((c.children s).filter fun k => !c.forever k && st.a.deliv k && !(rxD st s).contains k).length
  /-- a critical job that raised has not been reacted to yet (otherwise the run would have left its loop) -/
  noCrit : ∀ s, st.pcB s = .loop → ∀ k ∈ c.children s, c.critical k = true →
      (∃ e, st.a.ph k = .done (.exc e)) → (st.a.deliv k = false ∨ k ∈ rxD st s)
  exitCancelled : ∀ s, (st.pcB s).exiting = true → ∀ k ∈ c.children s, (st.a.ph k).live = true → st.a.creq k = true
  shutQuiet : ∀ s x, (st.pcB s = .shut x ∨ st.pcB s = .shutTidy x) → ∀ k ∈ c.children s, (st.a.ph k).live = false
  /-- `co_shutdown()` reaches a job at most once, exactly when its scheduler has broadcast -/
  hcallsLe : ∀ k, st.hcalls k ≤ 1
  hcallsDid : ∀ k, 0 < k → k < c.n → (st.hcalls k = 1 ↔ st.didSd (c.parent k) = true)
  hphNone : ∀ k, st.hph k = .hnone ↔ st.hcalls k = 0
  /-- the broadcast state mirrors the phase of the run (inline) / of the relay -/
  bcNone : ∀ s, st.bc s = .bnone ↔ st.didSd s = false
  bcInlineWait : ∀ s, st.bc s = .bwait .inline ↔ ∃ x, st.pcB s = .shut x
  bcInlineTidy : ∀ s, st.bc s = .btidy .inline ↔ ∃ x, st.pcB s = .shutTidy x
  bcRelay : ∀ s, relayActive st s = true → st.hph s = .hactive ∧ c.isSched s = true
  hactiveBc : ∀ k, 0 < k → k < c.n → st.hph k = .hactive → ((st.bc (c.parent k)).isWait = true ∨ (st.bc (c.parent k)).isTidy = true)
  /-- a cancellation is pending only on a handler in progress — or on the relay of a nested scheduler that had
      already shut down: its first step returns at once without looking at the request (the simpler
      `hcreq k → hph k = hactive` is false: `hcreqCex` below) -/
  hcreqActive : ∀ k, st.hcreq k = true →
      st.hph k = .hactive ∨ (c.isSched k = true ∧ st.hph k = .hdone ∧ st.didSd k = true)
  overDid : ∀ s, s < c.n → c.isSched s = true → st.pcB s = .over → (c.children s ≠ [] → st.didSd s = true)
  sdQuiet : ∀ s, st.didSd s = true → ∀ k ∈ c.children s, (st.a.ph k).live = false
  /-- a scheduler whose `co_shutdown()` was relayed is not running (it never began, or its run is over) -/
  relayIdle : ∀ s, c.isSched s = true → 0 < s → st.hph s ≠ .hnone → (st.a.ph s).live = false
  deadlineEq : ∀ s, st.pcB s = .loop → st.deadline s = (c.timeout s).map (st.tbegin s + ·)
  deadlineGe : ∀ s dl, st.pcB s = .loop → st.deadline s = some dl → st.a.now ≤ dl ∧ st.tbegin s ≤ st.a.now
  hdeadlineEq : ∀ s, (st.bc s).isWait = true → st.hdeadline s = (c.sdTimeout s).map (st.tsd s + ·)
  hdeadlineGe : ∀ s dl, (st.bc s).isWait = true → st.hdeadline s = some dl → st.a.now ≤ dl ∧ st.tsd s ≤ st.a.now
  /-- `_failed_timeout` (resp. `_failed_critical`) is set when, and only when, the run leaves its main loop on expiry
      (resp. on a critical failure), before the clean-up; a cancellation delivered during that clean-up overwrites
      the exit reason, not the diagnosis -/
  diagClear : ∀ s, st.pcB s ≠ .over →
      (st.failC s = true → (st.pcB s).exitOf = some .critical ∨ (st.pcB s).exitOf = some .cancelled) ∧
      (st.failT s = true → (st.pcB s).exitOf = some .timeout ∨ (st.pcB s).exitOf = some .cancelled)
  failTSet : ∀ s, (st.pcB s).exitOf = some .timeout → st.failT s = true
  failCSet : ∀ s, (st.pcB s).exitOf = some .critical → st.failC s = true
  carrivedCreq : ∀ s, st.carrived s = true → st.pcB s ≠ .notBegun
  didSdLoop : ∀ s, st.didSd s = true → st.pcB s ≠ .loop
  /-- a scheduler that shut down without having begun was told to by the enclosing scheduler -/
  didSdBegun : ∀ s, st.didSd s = true → st.pcB s = .notBegun → st.hph s ≠ .hnone
  didSdRange : ∀ s, st.didSd s = true → s < c.n ∧ c.isSched s = true
  hcallsRange : ∀ k, st.hcalls k ≠ 0 → 0 < k ∧ k < c.n
  pcRange : ∀ s, st.pcB s ≠ .notBegun → s < c.n ∧ c.isSched s = true
  runPh : ∀ s, st.pcB s ≠ .notBegun → st.pcB s ≠ .over → st.a.ph s = .running
  cancelledArr : ∀ s, (st.pcB s).exitOf = some .cancelled → st.carrived s = true
  carrivedCreq2 : ∀ s, st.carrived s = true → st.a.creq s = true ∨ st.pcB s = .over
  overQuiet : ∀ s, st.pcB s = .over → ∀ k ∈ c.children s, (st.a.ph k).live = false
  /-- the `done` set of a pending reaction is a duplicate-free list of jobs of the scheduler -/
  rxSub : ∀ s D, st.a.rx s = some D → ∃ q : Nat → Bool, D = (c.children s).filter q

/- `hcreq k → hph k = hactive` fails: with `shutdown_timeout = 0` the top-level scheduler gives up the wait of its
   broadcast at once (`sdTimeoutFire 0`) and calls `cancel()` on the relay of the nested scheduler `1`, which had shut
   down inline; the first step of that relay (`hStep 1`) finds `_did_shutdown` set and returns, the request still
   standing. -/

def hcreqCex : Cfg :=
  { n := 3, parent := fun j => if j = 2 then 1 else 0, isSched := fun j => j = 0 || j = 1, req := fun _ => [],
    critical := fun _ => false, forever := fun _ => false, window := fun _ => 0, timeout := fun _ => none,
    sdTimeout := fun j => if j = 0 then some 0 else none, topPure := true }

def hcreqCexEvs : List EvB :=
  [.runBegin, .grant 1, .grant 2, .bodyEnd 2 true, .waitReturn 1, .react 1, .tidyReturn 1 0, .hEnd 2,
   .sdWaitReturn 1 0, .waitReturn 0, .react 0, .tidyReturn 0 0, .sdTimeoutFire 0, .hStep 1]

example : hcreqCex.wf = true ∧
    (acceptB hcreqCex StB.init hcreqCexEvs).map (fun st => (st.hcreq 1, st.hph 1)) = some (true, .hdone) := by
  decide

/-- no run of `j` has begun: `j` is no scheduler, or its task has not had its slot yet -/
theorem InvB.notBegun_of {c : Cfg} {st : StB} {j : Nat} (hA : InvA c st.a) (hinv : InvB c st)
    (h : c.isSched j = true → st.a.ph j = .idle ∨ st.a.ph j = .queued) : st.pcB j = .notBegun :=
  Decidable.by_contra fun hn =>
    hn ((hinv.pcNotBegun j).2 (hA.notBegun j (hinv.pcRange j hn).2 (h (hinv.pcRange j hn).2)))

theorem InvB.notBegun_of_queued {c : Cfg} {st : StB} {s : Nat} (hA : InvA c st.a) (hinv : InvB c st)
    (h : st.a.ph s = .queued ∨ st.a.pc s = .notBegun) : st.pcB s = .notBegun :=
  h.elim (fun h => hinv.notBegun_of hA fun _ => Or.inr h) (hinv.pcNotBegun s).2

theorem InvB.didSd_of_bc {c : Cfg} {st : StB} (hinv : InvB c st) {s : Nat} (h : st.bc s ≠ .bnone) :
    st.didSd s = true := by
  cases hd : st.didSd s
  · exact absurd ((hinv.bcNone s).2 hd) h
  · rfl

theorem InvB.hph_none_of_didSd {c : Cfg} {st : StB} (hinv : InvB c st) {s k : Nat} (hk : k ∈ c.children s)
    (hd : st.didSd s = false) : st.hcalls k = 0 ∧ st.hph k = .hnone := by
  obtain ⟨hkn, hk0, hkp⟩ := mem_children.1 hk
  have h1 := hinv.hcallsLe k
  have h2 : st.hcalls k ≠ 1 := fun h => by simpa [hkp, hd] using (hinv.hcallsDid k (by omega) hkn).1 h
  have h3 : st.hcalls k = 0 := by omega
  exact ⟨h3, (hinv.hphNone k).2 h3⟩

theorem InvB.handler_range {c : Cfg} {st : StB} (hinv : InvB c st) {k : Nat} (h : st.hph k ≠ .hnone) :
    0 < k ∧ k < c.n :=
  hinv.hcallsRange k fun h0 => h ((hinv.hphNone k).2 h0)

/-- `relayIdle`, read on `pcB` -/
theorem InvB.relayed_idle {c : Cfg} {st : StB} (hinv : InvB c st) {s : Nat} (h : st.hph s ≠ .hnone) :
    st.pcB s = .notBegun ∨ st.pcB s = .over := by
  by_cases h1 : st.pcB s = .notBegun
  · exact Or.inl h1
  · by_cases h2 : st.pcB s = .over
    · exact Or.inr h2
    · have := hinv.relayIdle s (hinv.pcRange s h1).2 (hinv.handler_range h).1 h
      simp [hinv.runPh s h1 h2, Ph.live] at this

theorem _root_.AJ.Full.GivenUp.wait {c : Cfg} {st st' : StB} {e : EvB} {s : Nat} {w : Who} (hinv : InvB c st)
    (h : GivenUp c st e st' s w) : st.bc s = .bwait w := by
  match h with
  | .expires (was := h1) .. => exact h1
  | .runCancelled (who := hw) (pc := hx) .. => exact hw ▸ (hinv.bcInlineWait s).2 hx
  | .relayCancelled (who := hw) (was := h1) .. => exact hw ▸ h1

theorem _root_.AJ.Full.HandlerEnds.active {c : Cfg} {st : StB} {e : EvB} {k : Nat} {hp : Hph} {cr : Bool} (hB : InvB c st)
    (h : HandlerEnds c st e k hp cr) : st.hph k = .hactive := by
  match h with
  | .atomic (was := h1) .. | .relaySkips (was := h1) .. => exact h1
  | .relayWaitReturns (bc := h1) .. | .relayTidyReturns (bc := h1) .. =>
    exact (hB.bcRelay k (by simp [relayActive, h1])).1

theorem InvB.diag_clear {c : Cfg} {st : StB} (hB : InvB c st) {s : Nat} (hx : (st.pcB s).exitOf = none)
    (hno : st.pcB s ≠ .over) : st.failT s = false ∧ st.failC s = false := by
  have hd := hB.diagClear s hno
  simp only [hx] at hd
  constructor
  · cases hf : st.failT s
    · rfl
    · simpa using hd.2 hf
  · cases hf : st.failC s
    · rfl
    · simpa using hd.1 hf

theorem InvB.loop_clear {c : Cfg} {st : StB} (hB : InvB c st) {s : Nat} (hl : st.pcB s = .loop) :
    st.failT s = false ∧ st.failC s = false :=
  hB.diag_clear (by rw [hl]; rfl) (by simp [hl])

theorem InvB.loop_of_live {c : Cfg} {st : StB} (hA : InvA c st.a) (hB : InvB c st) {s k : Nat}
    (hk : k ∈ c.children s) (hl : (st.a.ph k).live = true) (hcr : st.a.creq k = false) : st.pcB s = .loop := by
  cases hp : st.pcB s with
  | loop => rfl
  | notBegun => rw [hA.childrenIdle ((hB.pcNotBegun s).1 hp) k hk] at hl; cases hl
  | over => have := hB.overQuiet s hp k hk; rw [hl] at this; cases this
  | tidy x | shut x | shutTidy x =>
    have := hB.exitCancelled s (by rw [hp]; rfl) k hk hl
    rw [hcr] at this; cases this

theorem filter_split (l : List Nat) (f dl q : Nat → Bool) (h : ∀ k ∈ l, q k = true → dl k = true) :
    (l.filter fun k => !f k && dl k && !q k).length + (l.filter fun k => q k && !f k).length =
      (l.filter fun k => !f k && dl k).length := by
  rw [List.length_eq_countP_add_countP q (l := l.filter fun k => !f k && dl k), List.countP_filter, List.countP_filter,
    ← List.countP_eq_length_filter, ← List.countP_eq_length_filter, Nat.add_comm]
  congr 1 <;> apply List.countP_congr <;> intro k hk
  · cases hq : q k
    · simp
    · simp [h k hk hq]
  · simp [Bool.and_comm]

theorem count_react (l D : List Nat) (f dl q : Nat → Bool) (hD : D = l.filter q) (hdl : ∀ d ∈ D, dl d = true) :
    (l.filter fun k => !f k && dl k && !(D.contains k)).length + (D.filter fun d => !f d).length =
      (l.filter fun k => !f k && dl k).length := by
  subst hD
  have h1 : ∀ k ∈ l, (!f k && dl k && !(l.filter q).contains k) = (!f k && dl k && !q k) := fun k hk => by
    congr 2; rw [Bool.eq_iff_iff]; simp [hk]
  simp only [List.filter_congr h1, List.filter_filter]
  rw [← filter_split l f dl q fun k hk hq => hdl k (by simp [hk, hq])]
  simp only [Bool.and_comm]

theorem count_all_reported {c : Cfg} {a : StA} {s : Nat}
    (hdel : ∀ k ∈ c.children s, c.forever k = false → a.deliv k = true) :
    ((c.children s).filter fun k => !c.forever k && a.deliv k).length = nbFinite c s := by
  unfold nbFinite
  congr 1
  apply List.filter_congr
  intro k hk
  cases hf : c.forever k with
  | true => simp
  | false => simp [hdel k hk hf]

/-- `nb_jobs_done`, with the regular jobs of the pending reaction counted in, is the number of regular jobs reported -/
theorem InvB.count_reported {c : Cfg} {st : StB} {s : Nat} (hA : InvA c st.a) (hB : InvB c st)
    (hl : st.pcB s = .loop) :
    st.nbDone s + ((rxD st s).filter fun d => !c.forever d).length =
      ((c.children s).filter fun k => !c.forever k && st.a.deliv k).length := by
  rw [hB.count s hl]
  cases hD : st.a.rx s with
  | none => simp [rxD, hD]
  | some D =>
    obtain ⟨q, hq⟩ := hB.rxSub s D hD
    simpa [rxD, hD] using count_react (c.children s) D c.forever st.a.deliv q hq (hA.rxLoop s D hD).2

theorem InvB.count_full {c : Cfg} {st : StB} (hB : InvB c st) {s : Nat} (hl : st.pcB s = .loop)
    (hrx : st.a.rx s = none) (hall : ∀ k ∈ c.children s, c.forever k = false → st.a.deliv k = true) :
    st.nbDone s = nbFinite c s := by
  rw [hB.count s hl, rxD, hrx, ← count_all_reported hall]
  simp

/-! ### preservation

  Every step of layer B is one of the changes of state below, or a few of them in a row; each preserves `InvB`. -/

/-- the task of `j` moves on while no run of `j` is in progress: an atomic job obtains its slot, a body ends, a
    cancelled task finishes, the task of a scheduler begins (its run is to follow) or ends (its run is over).
    `hlv`: a task becomes live only from live (`0` apart: it is nobody's job); `hcr`: the request flag of `j` is left
    alone and the task does not end cancelled, or it is cleared as the task ends — cancelled only if that was asked -/
theorem invB_task {c : Cfg} {st : StB} {j : Nat} {v : Ph} {cr' rf' : Nat → Bool} {en' qc' : Nat → Nat}
    (hinv : InvB c st) (hpc : st.pcB j = .notBegun ∨ st.pcB j = .over) (hdl : st.a.deliv j = false)
    (hlv : v.live = true → (st.a.ph j).live = true ∨ j = 0)
    (hcr : (cr' = st.a.creq ∧ v ≠ .cancelled) ∨
      (cr' = setAt st.a.creq j false ∧ v.live = false ∧ (v = .cancelled → st.a.creq j = true))) :
    InvB c { st with a := { st.a with ph := setAt st.a.ph j v, creq := cr', rflag := rf', entries := en',
                                      qcount := qc' } } := by
  have hcr' : ∀ k, k ≠ j → cr' k = st.a.creq k := fun k e => by
    rcases hcr with ⟨rfl, _⟩ | ⟨rfl, _⟩
    · rfl
    · exact setAt_of_ne _ _ e
  have hq : ∀ {k}, k ≠ 0 → (st.a.ph k).live = false → (setAt st.a.ph j v k).live = false := fun {k} h0 hl => by
    by_cases e : k = j
    · subst e
      rw [setAt_self]
      exact Bool.eq_false_iff.2 fun h => by simpa [hl] using (hlv h).resolve_right h0
    · rwa [setAt_of_ne _ _ e]
  have hpos : ∀ {k s'}, k ∈ c.children s' → k ≠ 0 := fun hk => (mem_children.1 hk).2.1
  exact
  { hinv with
    loopClean := fun s' hl k hk => by
      have := hinv.loopClean s' hl k hk
      by_cases e : k = j
      · subst e
        rcases hcr with ⟨rfl, hv⟩ | ⟨rfl, _, h⟩
        · exact ⟨this.1, by simpa using hv⟩
        · exact ⟨setAt_self .., fun hc => by simp [h (by simpa using hc)] at this⟩
      · simpa [setAt, e, hcr' k e] using this
    noCrit := fun s' hl k hk hc he => by
      by_cases e : k = j
      · exact Or.inl (e ▸ hdl)
      · exact hinv.noCrit s' hl k hk hc (by simpa [setAt, e] using he)
    exitCancelled := fun s' he k hk hl => by
      by_cases e : k = j
      · subst e
        have hl' : v.live = true := by simpa using hl
        have := hinv.exitCancelled s' he k hk ((hlv hl').resolve_right (hpos hk))
        rcases hcr with ⟨rfl, _⟩ | ⟨_, hv, _⟩
        · exact this
        · simp [hv] at hl'
      · exact (hcr' k e).trans (hinv.exitCancelled s' he k hk (by simpa [setAt, e] using hl))
    shutQuiet := fun s' x hs k hk => hq (hpos hk) (hinv.shutQuiet s' x hs k hk)
    sdQuiet := fun s' hs k hk => hq (hpos hk) (hinv.sdQuiet s' hs k hk)
    relayIdle := fun s' hs h0 hh => hq (by omega) (hinv.relayIdle s' hs h0 hh)
    runPh := fun s' h1 h2 => by
      have e : s' ≠ j := fun e => hpc.elim (e ▸ h1) (e ▸ h2)
      simpa [setAt, e] using hinv.runPh s' h1 h2
    carrivedCreq2 := fun s' hs => by
      by_cases e : s' = j
      · exact Or.inr (e ▸ hpc.resolve_left (e ▸ hinv.carrivedCreq s' hs))
      · exact (hinv.carrivedCreq2 s' hs).imp (hcr' s' e).trans id
    overQuiet := fun s' hs k hk => hq (hpos hk) (hinv.overQuiet s' hs k hk) }

/-- the main wait of `s` hands over the finished jobs not yet reported -/
theorem invB_waitReturn {c : Cfg} {st : StB} {s : Nat} (hinv : InvB c st) (hrx : st.a.rx s = none) :
    InvB c { st with a := { st.a with deliv := fun k => st.a.deliv k || decide (k ∈ doneSet c st.a s),
                                      rx := setAt st.a.rx s (some (doneSet c st.a s)) } } := by
  have hD : ∀ {k s'}, k ∈ c.children s' → s' ≠ s → k ∉ doneSet c st.a s := fun hk e hkD =>
    e (children_inj hk (mem_doneSet.1 hkD).1)
  exact
  { hinv with
    count := fun s' hl => by
      rw [hinv.count s' hl]
      congr 1
      apply List.filter_congr
      intro k hk
      by_cases e : s' = s
      · subst e
        by_cases hkD : k ∈ doneSet c st.a s'
        · simp [rxD, setAt, hkD, (mem_doneSet.1 hkD).2.2]
        · simp [rxD, setAt, hkD, hrx]
      · simp [rxD, setAt, e, hD hk e]
    noCrit := fun s' hl k hk hc he => by
      have := hinv.noCrit s' hl k hk hc he
      by_cases e : s' = s
      · subst e
        by_cases hkD : k ∈ doneSet c st.a s'
        · exact Or.inr (by simp [rxD, setAt, hkD])
        · exact Or.inl (by simpa [rxD, hrx, hkD] using this)
      · simpa [rxD, setAt, e, hD hk e] using this
    rxSub := fun s' D' hr => by
      by_cases e : s' = s
      · subst e
        obtain rfl : doneSet c st.a s' = D' := by simpa [setAt] using hr
        exact ⟨_, rfl⟩
      · exact hinv.rxSub s' D' (by simpa [setAt, e] using hr) }

/-- `s` has reacted to the reported jobs `D` and goes on: they are counted -/
theorem invB_reacted {c : Cfg} {st : StB} {s : Nat} {D : List Nat} (hA : InvA c st.a) (hinv : InvB c st)
    (hrx : st.a.rx s = some D) (hcrit : critIn c st.a D = false) :
    InvB c { st with a := { st.a with rx := setAt st.a.rx s none },
                     nbDone := setAt st.nbDone s (st.nbDone s + (D.filter fun d => !c.forever d).length) } :=
  { hinv with
    count := fun s' hl => by
      by_cases e : s' = s
      · subst e; simpa [rxD, setAt, hrx] using hinv.count_reported hA hl
      · simpa [rxD, setAt, e] using hinv.count s' hl
    noCrit := fun s' hl k hk hc he => by
      have := hinv.noCrit s' hl k hk hc he
      by_cases e : s' = s
      · subst e
        obtain ⟨x, hx⟩ := he
        exact Or.inl (this.resolve_right fun hkD => critIn_false hcrit k (by simpa [rxD, hrx] using hkD) hc x hx)
      · simpa [rxD, setAt, e] using this
    rxSub := fun s' D' hr => hinv.rxSub s' D' (setAt_elim (· = some D') hr nofun).2 }

/-- the run of `s`, in its main loop, creates tasks for jobs `S` of its own -/
theorem invB_startJobs {c : Cfg} {st : StB} {s : Nat} {S : List Nat} (hinv : InvB c st) (hpc : st.pcB s = .loop)
    (hS : ∀ k ∈ S, k ∈ c.children s) : InvB c { st with a := startJobs st.a S } := by
  have hcases := fun k => startJobs_ph_cases st.a S k
  have hnew : ∀ {k s'}, k ∈ c.children s' → st.pcB s' ≠ .loop → (startJobs st.a S).ph k = st.a.ph k :=
    fun {k s'} hk hl => (hcases k).resolve_right fun h => hl (children_inj hk (hS k h.1) ▸ hpc)
  have hkeep : ∀ k, st.a.ph k ≠ .idle → (startJobs st.a S).ph k = st.a.ph k := fun k hk =>
    (hcases k).resolve_right fun h => hk h.2.1
  exact
  { hinv with
    loopClean := fun s' hl k hk => by
      have := hinv.loopClean s' hl k hk
      rcases hcases k with h | ⟨_, _, h⟩
      · exact ⟨this.1, h ▸ this.2⟩
      · exact ⟨this.1, by simp [h]⟩
    noCrit := fun s' hl k hk hc ⟨x, hx⟩ => by
      have hk' := hkeep k (by rintro h; rcases hcases k with h' | ⟨_, _, h'⟩ <;> simp [h', h] at hx)
      exact hinv.noCrit s' hl k hk hc ⟨x, hk' ▸ hx⟩
    exitCancelled := fun s' he k hk hl => by
      have e : st.pcB s' ≠ .loop := by rintro h; simp [h, PcB.exiting] at he
      exact hinv.exitCancelled s' he k hk (hnew hk e ▸ hl)
    shutQuiet := fun s' x hs k hk => by
      have e : st.pcB s' ≠ .loop := fun h => by rcases hs with h' | h' <;> simp [h] at h'
      exact (hnew hk e).symm ▸ hinv.shutQuiet s' x hs k hk
    sdQuiet := fun s' hs k hk => (hnew hk (hinv.didSdLoop s' hs)).symm ▸ hinv.sdQuiet s' hs k hk
    relayIdle := fun s' hs h0 hh => by
      have := hinv.relayIdle s' hs h0 hh
      rcases hcases s' with h | ⟨h, _⟩
      · exact h.symm ▸ this
      · -- a job whose handler exists belongs to a scheduler that has shut down: `s` has not
        cases hd : st.didSd s
        · exact absurd (hinv.hph_none_of_didSd (hS s' h) hd).2 hh
        · exact absurd hpc (hinv.didSdLoop s hd)
    runPh := fun s' h1 h2 => by
      have := hinv.runPh s' h1 h2
      exact (hkeep s' (by simp [this])).trans this
    overQuiet := fun s' hs k hk => by
      have e : st.pcB s' ≠ .loop := by simp [show st.pcB s' = _ from hs]
      exact (hnew hk e).symm ▸ hinv.overQuiet s' hs k hk }

/-- `co_run` of `s`, whose task has just begun, enters its main loop: nothing was asked of its jobs, none was reported -/
theorem invB_enterLoop {c : Cfg} {st : StB} {s : Nat} (hinv : InvB c st) (hnb : st.pcB s = .notBegun)
    (hr : s < c.n ∧ c.isSched s = true) (hrun : st.a.ph s = .running)
    (hch : ∀ k ∈ c.children s, st.a.creq k = false ∧ st.a.ph k ≠ .cancelled ∧ st.a.deliv k = false) :
    InvB c { st with a := { st.a with pc := setAt st.a.pc s .loop, rx := setAt st.a.rx s none },
                     pcB := setAt st.pcB s .loop, nbDone := setAt st.nbDone s 0,
                     tbegin := setAt st.tbegin s st.a.now,
                     deadline := setAt st.deadline s ((c.timeout s).map (st.a.now + ·)) } := by
  have hnd : st.didSd s = false := Bool.eq_false_iff.2 fun hd => by
    have h1 := hinv.didSdBegun s hd hnb
    simpa [hrun, Ph.live] using hinv.relayIdle s hr.2 (hinv.handler_range h1).1 h1
  exact
  { hinv with
    pcNotBegun := fun s' => by by_cases e : s' = s <;> simp [setAt, e, hinv.pcNotBegun s']
    pcLoop := fun s' => by by_cases e : s' = s <;> simp [setAt, e, hinv.pcLoop s']
    pcOver := fun s' => by by_cases e : s' = s <;> simp [setAt, e, hinv.pcOver s']
    loopClean := fun s' hl k hk => by
      by_cases e : s' = s
      · subst e; exact ⟨(hch k hk).1, (hch k hk).2.1⟩
      · exact hinv.loopClean s' (by simpa [setAt, e] using hl) k hk
    count := fun s' hl => by
      by_cases e : s' = s
      · subst e
        have : ((c.children s').filter fun k => !c.forever k && st.a.deliv k) = [] :=
          List.filter_eq_nil_iff.2 fun k hk => by simp [(hch k hk).2.2]
        simp [rxD, setAt, this]
      · simpa [rxD, setAt, e] using hinv.count s' (by simpa [setAt, e] using hl)
    noCrit := fun s' hl k hk hc hx => by
      by_cases e : s' = s
      · exact Or.inl (hch k (e ▸ hk)).2.2
      · simpa [rxD, setAt, e] using hinv.noCrit s' (by simpa [setAt, e] using hl) k hk hc hx
    exitCancelled := fun s' he =>
      hinv.exitCancelled s' (setAt_elim (PcB.exiting · = true) he (by simp [PcB.exiting])).2
    shutQuiet := fun s' x hs =>
      hinv.shutQuiet s' x (setAt_elim (fun p => p = PcB.shut x ∨ p = .shutTidy x) hs (by simp)).2
    bcInlineWait := fun s' => by by_cases e : s' = s <;> simp [setAt, e, hinv.bcInlineWait, hnb]
    bcInlineTidy := fun s' => by by_cases e : s' = s <;> simp [setAt, e, hinv.bcInlineTidy, hnb]
    overDid := fun s' hn hs ho => hinv.overDid s' hn hs (setAt_elim (· = PcB.over) ho nofun).2
    deadlineEq := fun s' hl => by
      by_cases e : s' = s
      · simp [setAt, e]
      · simpa [setAt, e] using hinv.deadlineEq s' (by simpa [setAt, e] using hl)
    deadlineGe := fun s' dl hl hd => by
      by_cases e : s' = s
      · subst e
        cases ht : c.timeout s' <;> simp [setAt, ht] at hd
        simp [setAt]; omega
      · simpa [setAt, e] using hinv.deadlineGe s' dl (by simpa [setAt, e] using hl) (by simpa [setAt, e] using hd)
    diagClear := fun s' ho => by
      by_cases e : s' = s
      · subst e; simpa [setAt, hnb, PcB.exitOf] using hinv.diagClear s' (by simp [hnb])
      · simpa [setAt, e] using hinv.diagClear s' (by simpa [setAt, e] using ho)
    failTSet := fun s' hx => hinv.failTSet s' (setAt_elim (PcB.exitOf · = some .timeout) hx nofun).2
    failCSet := fun s' hx => hinv.failCSet s' (setAt_elim (PcB.exitOf · = some .critical) hx nofun).2
    carrivedCreq := fun s' hc => by by_cases e : s' = s <;> simp [setAt, e, hinv.carrivedCreq s' hc]
    didSdLoop := fun s' hd => by
      have e : s' ≠ s := fun e => by simp [e, hnd] at hd
      simpa [setAt, e] using hinv.didSdLoop s' hd
    didSdBegun := fun s' hd hn => hinv.didSdBegun s' hd (setAt_elim (· = PcB.notBegun) hn nofun).2
    pcRange := fun s' hn => by
      by_cases e : s' = s
      · exact e ▸ hr
      · exact hinv.pcRange s' (by simpa [setAt, e] using hn)
    runPh := fun s' h1 h2 => by
      by_cases e : s' = s
      · exact e ▸ hrun
      · exact hinv.runPh s' (by simpa [setAt, e] using h1) (by simpa [setAt, e] using h2)
    cancelledArr := fun s' hx => hinv.cancelledArr s' (setAt_elim (PcB.exitOf · = some .cancelled) hx nofun).2
    carrivedCreq2 := fun s' hc => by
      have e : s' ≠ s := fun e => hinv.carrivedCreq s' hc (e ▸ hnb)
      simpa [setAt, e] using hinv.carrivedCreq2 s' hc
    overQuiet := fun s' ho => hinv.overQuiet s' (setAt_elim (· = PcB.over) ho nofun).2
    rxSub := fun s' D' hr => hinv.rxSub s' D' (setAt_elim (· = some D') hr nofun).2 }

/-- `co_run` of `s` is over: it had no job, or has tidied up after its jobs and has shut down; its task is about to end -/
theorem invB_runOver {c : Cfg} {st : StB} {s : Nat} {tb' : Nat → Nat} {sv' : Nat → Option Bool} (hinv : InvB c st)
    (hp : st.pcB s = .notBegun ∨ ∃ x, st.pcB s = .tidy x) (hr : s < c.n ∧ c.isSched s = true)
    (hds : c.children s ≠ [] → st.didSd s = true) (hquiet : ∀ k ∈ c.children s, (st.a.ph k).live = false)
    (htb : ∀ s', s' ≠ s → tb' s' = st.tbegin s') :
    InvB c { st with a := { st.a with pc := setAt st.a.pc s .over }, pcB := setAt st.pcB s .over, tbegin := tb',
                     sdValue := sv' } :=
  { hinv with
    pcNotBegun := fun s' => by by_cases e : s' = s <;> simp [setAt, e, hinv.pcNotBegun s']
    pcLoop := fun s' => by by_cases e : s' = s <;> simp [setAt, e, hinv.pcLoop s']
    pcOver := fun s' => by by_cases e : s' = s <;> simp [setAt, e, hinv.pcOver s']
    loopClean := fun s' hl => hinv.loopClean s' (setAt_elim (· = PcB.loop) hl nofun).2
    count := fun s' hl => hinv.count s' (setAt_elim (· = PcB.loop) hl nofun).2
    noCrit := fun s' hl => hinv.noCrit s' (setAt_elim (· = PcB.loop) hl nofun).2
    exitCancelled := fun s' he =>
      hinv.exitCancelled s' (setAt_elim (PcB.exiting · = true) he (by simp [PcB.exiting])).2
    shutQuiet := fun s' x hs =>
      hinv.shutQuiet s' x (setAt_elim (fun p => p = PcB.shut x ∨ p = .shutTidy x) hs (by simp)).2
    bcInlineWait := fun s' => by
      by_cases e : s' = s
      · subst e; rcases hp with h | ⟨y, h⟩ <;> simpa [setAt, h] using hinv.bcInlineWait s'
      · simpa [setAt, e] using hinv.bcInlineWait s'
    bcInlineTidy := fun s' => by
      by_cases e : s' = s
      · subst e; rcases hp with h | ⟨y, h⟩ <;> simpa [setAt, h] using hinv.bcInlineTidy s'
      · simpa [setAt, e] using hinv.bcInlineTidy s'
    overDid := fun s' hn hs ho hne => by
      by_cases e : s' = s
      · exact e ▸ hds (e ▸ hne)
      · exact hinv.overDid s' hn hs (by simpa [setAt, e] using ho) hne
    deadlineEq := fun s' hl => by
      obtain ⟨e, hl⟩ := setAt_elim (· = PcB.loop) hl nofun
      simpa [htb s' e] using hinv.deadlineEq s' hl
    deadlineGe := fun s' dl hl hd => by
      obtain ⟨e, hl⟩ := setAt_elim (· = PcB.loop) hl nofun
      simpa [htb s' e] using hinv.deadlineGe s' dl hl hd
    diagClear := fun s' ho => by
      have e : s' ≠ s := fun e => by simp [setAt, e] at ho
      simpa [setAt, e] using hinv.diagClear s' (by simpa [setAt, e] using ho)
    failTSet := fun s' hx => hinv.failTSet s' (setAt_elim (PcB.exitOf · = some .timeout) hx nofun).2
    failCSet := fun s' hx => hinv.failCSet s' (setAt_elim (PcB.exitOf · = some .critical) hx nofun).2
    carrivedCreq := fun s' hc => by by_cases e : s' = s <;> simp [setAt, e, hinv.carrivedCreq s' hc]
    didSdLoop := fun s' hd => by by_cases e : s' = s <;> simp [setAt, e, hinv.didSdLoop s' hd]
    didSdBegun := fun s' hd hn => hinv.didSdBegun s' hd (setAt_elim (· = PcB.notBegun) hn nofun).2
    pcRange := fun s' hn => by
      by_cases e : s' = s
      · exact e ▸ hr
      · exact hinv.pcRange s' (by simpa [setAt, e] using hn)
    runPh := fun s' h1 h2 => by
      have e : s' ≠ s := fun e => by simp [setAt, e] at h2
      exact hinv.runPh s' (by simpa [setAt, e] using h1) (by simpa [setAt, e] using h2)
    cancelledArr := fun s' hx => hinv.cancelledArr s' (setAt_elim (PcB.exitOf · = some .cancelled) hx nofun).2
    carrivedCreq2 := fun s' hc => by
      by_cases e : s' = s
      · exact Or.inr (by simp [setAt, e])
      · simpa [setAt, e] using hinv.carrivedCreq2 s' hc
    overQuiet := fun s' ho k hk => by
      by_cases e : s' = s
      · exact hquiet k (e ▸ hk)
      · exact hinv.overQuiet s' (by simpa [setAt, e] using ho) k hk }

/-- the run of `s` leaves its main loop for reason `x` and calls `cancel()` on its unfinished jobs -/
theorem invB_exitLoop {c : Cfg} {st : StB} {s : Nat} {x : Exit} (hinv : InvB c st) (hloop : st.pcB s = .loop)
    (hca : x = .cancelled → st.carrived s = true) : InvB c (exitLoop c st s x (leaveA c st.a s)) := by
  have hnl : ∀ {k s'}, k ∈ c.children s' → s' ≠ s → k ∉ liveChildren c st.a s := fun hk e h =>
    e (children_inj hk (mem_liveChildren.1 h).1)
  obtain ⟨hft, hfc⟩ := hinv.loop_clear hloop
  unfold exitLoop leaveA
  exact
  { hinv with
    pcNotBegun := fun s' => by by_cases e : s' = s <;> simp [setAt, e, hinv.pcNotBegun s']
    pcLoop := fun s' => by by_cases e : s' = s <;> simp [setAt, e, hinv.pcLoop s']
    pcOver := fun s' => by by_cases e : s' = s <;> simp [setAt, e, hinv.pcOver s']
    loopClean := fun s' hl k hk => by
      obtain ⟨e, hl⟩ := setAt_elim (· = PcB.loop) hl nofun
      simpa [hnl hk e] using hinv.loopClean s' hl k hk
    count := fun s' hl => by
      obtain ⟨e, hl⟩ := setAt_elim (· = PcB.loop) hl nofun
      simpa [rxD, setAt, e] using hinv.count s' hl
    noCrit := fun s' hl k hk hc hx => by
      obtain ⟨e, hl⟩ := setAt_elim (· = PcB.loop) hl nofun
      simpa [rxD, setAt, e] using hinv.noCrit s' hl k hk hc hx
    exitCancelled := fun s' he k hk hl => by
      by_cases e : s' = s
      · subst e
        have : k ∈ liveChildren c st.a s' := mem_liveChildren.2 ⟨hk, hl⟩
        simp [this]
      · have := hinv.exitCancelled s' (by simpa [setAt, e] using he) k hk hl
        simp [this]
    shutQuiet := fun s' y hs =>
      hinv.shutQuiet s' y (setAt_elim (fun p => p = PcB.shut y ∨ p = .shutTidy y) hs (by simp)).2
    bcInlineWait := fun s' => by by_cases e : s' = s <;> simp [setAt, e, hinv.bcInlineWait, hloop]
    bcInlineTidy := fun s' => by by_cases e : s' = s <;> simp [setAt, e, hinv.bcInlineTidy, hloop]
    overDid := fun s' hn hs ho => hinv.overDid s' hn hs (setAt_elim (· = PcB.over) ho nofun).2
    deadlineEq := fun s' hl => by
      obtain ⟨e, hl⟩ := setAt_elim (· = PcB.loop) hl nofun
      simpa [setAt, e] using hinv.deadlineEq s' hl
    deadlineGe := fun s' dl hl hd => by
      obtain ⟨e, hl⟩ := setAt_elim (· = PcB.loop) hl nofun
      exact hinv.deadlineGe s' dl hl (by simpa [setAt, e] using hd)
    diagClear := fun s' ho => by
      by_cases e : s' = s
      · subst e; cases x <;> simp [setAt, PcB.exitOf, hfc, hft]
      · simpa [setAt, e] using hinv.diagClear s' (by simpa [setAt, e] using ho)
    failTSet := fun s' hx => by
      by_cases e : s' = s
      · subst e; simp [setAt, PcB.exitOf] at hx; simp [setAt, hx]
      · simpa [setAt, e] using hinv.failTSet s' (by simpa [setAt, e] using hx)
    failCSet := fun s' hx => by
      by_cases e : s' = s
      · subst e; simp [setAt, PcB.exitOf] at hx; simp [setAt, hx]
      · simpa [setAt, e] using hinv.failCSet s' (by simpa [setAt, e] using hx)
    carrivedCreq := fun s' hc => by by_cases e : s' = s <;> simp [setAt, e, hinv.carrivedCreq s' hc]
    didSdLoop := fun s' hd => by by_cases e : s' = s <;> simp [setAt, e, hinv.didSdLoop s' hd]
    didSdBegun := fun s' hd hn => hinv.didSdBegun s' hd (setAt_elim (· = PcB.notBegun) hn nofun).2
    pcRange := fun s' hn => by
      by_cases e : s' = s
      · exact e ▸ hinv.pcRange s (by simp [hloop])
      · exact hinv.pcRange s' (by simpa [setAt, e] using hn)
    runPh := fun s' h1 h2 => by
      by_cases e : s' = s
      · exact e ▸ hinv.runPh s (by simp [hloop]) (by simp [hloop])
      · exact hinv.runPh s' (by simpa [setAt, e] using h1) (by simpa [setAt, e] using h2)
    cancelledArr := fun s' hx => by
      by_cases e : s' = s
      · subst e; exact hca (by simpa [setAt, PcB.exitOf] using hx)
      · exact hinv.cancelledArr s' (by simpa [setAt, e] using hx)
    carrivedCreq2 := fun s' hc => by
      rcases hinv.carrivedCreq2 s' hc with h | h
      · exact Or.inl (by simp [h])
      · have e : s' ≠ s := fun e => by simp [e, hloop] at h
        exact Or.inr (by simpa [setAt, e] using h)
    overQuiet := fun s' ho => hinv.overQuiet s' (setAt_elim (· = PcB.over) ho nofun).2
    rxSub := fun s' D' hr => hinv.rxSub s' D' (setAt_elim (· = some D') hr nofun).2 }

/-- `nb_jobs_done` is not looked at outside the main loop -/
theorem invB_nbDone {c : Cfg} {st : StB} {s : Nat} (hinv : InvB c st) (hpc : st.pcB s ≠ .loop) (n : Nat) :
    InvB c { st with nbDone := setAt st.nbDone s n } :=
  { hinv with
    count := fun s' hl => by
      have e : s' ≠ s := fun e => hpc (e ▸ hl)
      simpa [rxD, setAt, e] using hinv.count s' hl }

/-- a `CancelledError` is delivered into `co_run` of `s`, on whose task `cancel()` was called -/
theorem invB_carrived {c : Cfg} {st : StB} {s : Nat} (hinv : InvB c st) (hpc : st.pcB s ≠ .notBegun)
    (hcr : st.a.creq s = true) : InvB c { st with carrived := setAt st.carrived s true } :=
  { hinv with
    carrivedCreq := fun s' hc => by
      by_cases e : s' = s
      · exact e ▸ hpc
      · exact hinv.carrivedCreq s' (by simpa [setAt, e] using hc)
    cancelledArr := fun s' hx => by by_cases e : s' = s <;> simp [setAt, e, hinv.cancelledArr s' hx]
    carrivedCreq2 := fun s' hc => by
      by_cases e : s' = s
      · exact Or.inl (e ▸ hcr)
      · exact hinv.carrivedCreq2 s' (by simpa [setAt, e] using hc) }

/-- `p` and `q` are both `notBegun`, both `loop`, both cleaning up, or both `over`: the fields of `InvB` that look at
    this only carry over from one to the other -/
structure SameKind (p q : PcB) : Prop where
  notBegun : q = .notBegun ↔ p = .notBegun
  loop : q = .loop ↔ p = .loop
  over : q = .over ↔ p = .over
  exiting : q.exiting = p.exiting

theorem SameKind.refl (p : PcB) : SameKind p p := ⟨Iff.rfl, Iff.rfl, Iff.rfl, rfl⟩

theorem SameKind.of_exiting {p q : PcB} (hp : p.exiting = true) (hq : q.exiting = true) : SameKind p q :=
  ⟨⟨fun h => by simp [h, PcB.exiting] at hq, fun h => by simp [h, PcB.exiting] at hp⟩,
   ⟨fun h => by simp [h, PcB.exiting] at hq, fun h => by simp [h, PcB.exiting] at hp⟩,
   ⟨fun h => by simp [h, PcB.exiting] at hq, fun h => by simp [h, PcB.exiting] at hp⟩, hq.trans hp.symm⟩

theorem SameKind.setAt {f : Nat → PcB} {s : Nat} {q : PcB} (h : SameKind (f s) q) (s' : Nat) :
    SameKind (f s') (setAt f s q s') := by
  by_cases e : s' = s
  · subst e; rwa [setAt_self]
  · rw [setAt_of_ne _ _ e]; exact .refl _

/-- the fields of `InvB` that look at the kind of each `pcB s` only (stated as there).  A structure of their own, so
    that the proof of `InvB` for a state that differs from `st` by states `pcB s` of the same kind, and by components
    these fields do not read, takes them from `InvB.byKind` the way it takes the unaffected fields from `InvB c st` -/
structure InvB.ByKind (c : Cfg) (st : StB) : Prop where
  pcNotBegun : ∀ s, st.pcB s = .notBegun ↔ st.a.pc s = .notBegun
  pcLoop : ∀ s, st.pcB s = .loop ↔ st.a.pc s = .loop
  pcOver : ∀ s, st.pcB s = .over ↔ st.a.pc s = .over
  loopClean : ∀ s, st.pcB s = .loop → ∀ k ∈ c.children s, st.a.creq k = false ∧ st.a.ph k ≠ .cancelled
  count : ∀ s, st.pcB s = .loop →
      st.nbDone s = ((c.children s).filter fun k => !c.forever k && st.a.deliv k && !(rxD st s).contains k).length
  noCrit : ∀ s, st.pcB s = .loop → ∀ k ∈ c.children s, c.critical k = true →
      (∃ e, st.a.ph k = .done (.exc e)) → (st.a.deliv k = false ∨ k ∈ rxD st s)
  exitCancelled : ∀ s, (st.pcB s).exiting = true → ∀ k ∈ c.children s, (st.a.ph k).live = true → st.a.creq k = true
  overDid : ∀ s, s < c.n → c.isSched s = true → st.pcB s = .over → (c.children s ≠ [] → st.didSd s = true)
  deadlineEq : ∀ s, st.pcB s = .loop → st.deadline s = (c.timeout s).map (st.tbegin s + ·)
  deadlineGe : ∀ s dl, st.pcB s = .loop → st.deadline s = some dl → st.a.now ≤ dl ∧ st.tbegin s ≤ st.a.now
  carrivedCreq : ∀ s, st.carrived s = true → st.pcB s ≠ .notBegun
  didSdLoop : ∀ s, st.didSd s = true → st.pcB s ≠ .loop
  didSdBegun : ∀ s, st.didSd s = true → st.pcB s = .notBegun → st.hph s ≠ .hnone
  pcRange : ∀ s, st.pcB s ≠ .notBegun → s < c.n ∧ c.isSched s = true
  runPh : ∀ s, st.pcB s ≠ .notBegun → st.pcB s ≠ .over → st.a.ph s = .running
  carrivedCreq2 : ∀ s, st.carrived s = true → st.a.creq s = true ∨ st.pcB s = .over
  overQuiet : ∀ s, st.pcB s = .over → ∀ k ∈ c.children s, (st.a.ph k).live = false

theorem InvB.byKind {c : Cfg} {st : StB} {pcB' : Nat → PcB} (hinv : InvB c st)
    (hk : ∀ s, SameKind (st.pcB s) (pcB' s)) : InvB.ByKind c { st with pcB := pcB' } where
  pcNotBegun s' := (hk s').notBegun.trans (hinv.pcNotBegun s')
  pcLoop s' := (hk s').loop.trans (hinv.pcLoop s')
  pcOver s' := (hk s').over.trans (hinv.pcOver s')
  loopClean s' hl := hinv.loopClean s' ((hk s').loop.1 hl)
  count s' hl := hinv.count s' ((hk s').loop.1 hl)
  noCrit s' hl := hinv.noCrit s' ((hk s').loop.1 hl)
  exitCancelled s' he := hinv.exitCancelled s' ((hk s').exiting.symm.trans he)
  overDid s' hn hs ho := hinv.overDid s' hn hs ((hk s').over.1 ho)
  deadlineEq s' hl := hinv.deadlineEq s' ((hk s').loop.1 hl)
  deadlineGe s' dl hl := hinv.deadlineGe s' dl ((hk s').loop.1 hl)
  carrivedCreq s' hc h := hinv.carrivedCreq s' hc ((hk s').notBegun.1 h)
  didSdLoop s' hd h := hinv.didSdLoop s' hd ((hk s').loop.1 h)
  didSdBegun s' hd hn := hinv.didSdBegun s' hd ((hk s').notBegun.1 hn)
  pcRange s' hn := hinv.pcRange s' fun h => hn ((hk s').notBegun.2 h)
  runPh s' h1 h2 := hinv.runPh s' (fun h => h1 ((hk s').notBegun.2 h)) fun h => h2 ((hk s').over.2 h)
  carrivedCreq2 s' hc := (hinv.carrivedCreq2 s' hc).imp id (hk s').over.2
  overQuiet s' ho := hinv.overQuiet s' ((hk s').over.1 ho)

/-- after the delivery of a `CancelledError` into the run of `s` while it tidies up (`_tidy_tasks` of the run or of its
    `co_shutdown`): the clean-up goes on, the reason for which the run ends becomes `cancelled` -/
theorem invB_cancelExit {c : Cfg} {st : StB} {s : Nat} {x : Exit} {q : PcB} (hinv : InvB c st)
    (hca : st.carrived s = true)
    (hq : (st.pcB s = .tidy x ∧ q = .tidy .cancelled) ∨ (st.pcB s = .shutTidy x ∧ q = .shutTidy .cancelled)) :
    InvB c { st with pcB := setAt st.pcB s q } := by
  have hk : ∀ s', SameKind (st.pcB s') (setAt st.pcB s q s') := by
    refine SameKind.setAt (.of_exiting ?_ ?_) <;> rcases hq with ⟨h, rfl⟩ | ⟨h, rfl⟩ <;> simp [h, PcB.exiting]
  have hqx : q.exitOf = some .cancelled := by rcases hq with ⟨_, rfl⟩ | ⟨_, rfl⟩ <;> rfl
  exact
  { hinv.byKind hk, hinv with
    shutQuiet := fun s' y hs => by
      by_cases e : s' = s
      · subst e
        rcases hq with ⟨_, rfl⟩ | ⟨h, rfl⟩
        · simp [setAt] at hs
        · exact hinv.shutQuiet s' x (Or.inr h)
      · exact hinv.shutQuiet s' y (by simpa [setAt, e] using hs)
    bcInlineWait := fun s' => by
      by_cases e : s' = s
      · subst e; rcases hq with ⟨h, rfl⟩ | ⟨h, rfl⟩ <;> simpa [setAt, h] using hinv.bcInlineWait s'
      · simpa [setAt, e] using hinv.bcInlineWait s'
    bcInlineTidy := fun s' => by
      by_cases e : s' = s
      · subst e; rcases hq with ⟨h, rfl⟩ | ⟨h, rfl⟩ <;> simpa [setAt, h] using hinv.bcInlineTidy s'
      · simpa [setAt, e] using hinv.bcInlineTidy s'
    diagClear := fun s' ho => by
      by_cases e : s' = s
      · simp [setAt, e, hqx]
      · simpa [setAt, e] using hinv.diagClear s' fun h => ho ((hk s').over.2 h)
    failTSet := fun s' hx => hinv.failTSet s' (setAt_elim (PcB.exitOf · = some .timeout) hx (by simp [hqx])).2
    failCSet := fun s' hx => hinv.failCSet s' (setAt_elim (PcB.exitOf · = some .critical) hx (by simp [hqx])).2
    cancelledArr := fun s' hx => by
      by_cases e : s' = s
      · exact e ▸ hca
      · exact hinv.cancelledArr s' (by simpa [setAt, e] using hx) }

/-- `co_run` of `s`, which has shut down already, ends for reason `x`, with `r`, when its tidy wait returns -/
theorem invB_finish {c : Cfg} {st : StB} {s : Nat} {x : Exit} {r : Option Res} {qc' : Nat → Nat}
    {sv' : Nat → Option Bool} (hinv : InvB c st) (hA : InvA c st.a) (hpc : st.pcB s = .tidy x)
    (hr : r = none → x = .cancelled) (hds : st.didSd s = true)
    (hquiet : ∀ k ∈ c.children s, (st.a.ph k).live = false) :
    InvB c { st with a := { st.a with pc := setAt st.a.pc s .over, ph := setAt st.a.ph s (finPh r),
                                      creq := setAt st.a.creq s false, qcount := qc' },
                     pcB := setAt st.pcB s .over, sdValue := sv' } := by
  have hrun := hinv.runPh s (by simp [hpc]) (by simp [hpc])
  -- a run ends cancelled after the delivery of a `CancelledError`, which was asked for
  have hcc : finPh r = .cancelled → st.a.creq s = true := fun h => by
    have hx : x = .cancelled := hr (by cases r <;> simp_all [finPh])
    exact (hinv.carrivedCreq2 s (hinv.cancelledArr s (by simp [hpc, hx, PcB.exitOf]))).resolve_right (by simp [hpc])
  exact invB_task
    (invB_runOver hinv (Or.inr ⟨x, hpc⟩) (hinv.pcRange s (by simp [hpc])) (fun _ => hds) hquiet fun _ _ => rfl)
    (Or.inr (setAt_self ..)) (hA.delivOff (by simp [hrun])) (by simp) (Or.inr ⟨rfl, finPh_live r, hcc⟩)

/-- `co_run` of a scheduler without jobs begins, and is over at once -/
theorem invB_beginEmpty {c : Cfg} {st : StB} {s : Nat} {rf' : Nat → Bool} {en' : Nat → Nat} (hA : InvA c st.a)
    (hinv : InvB c st) (hph : st.a.ph s = .idle ∨ st.a.ph s = .queued) (hr : s < c.n ∧ c.isSched s = true)
    (he : c.children s = []) :
    InvB c (beginB c st s { st.a with ph := setAt st.a.ph s (.done (.retBool true)), rflag := rf',
                                      pc := setAt st.a.pc s .over, entries := en' }) := by
  rw [beginB_of_empty he]
  exact invB_task
    (invB_runOver hinv (Or.inl (hinv.notBegun_of hA fun _ => hph)) hr (fun h => absurd he h) (by simp [he])
      fun s' e => setAt_of_ne _ _ e)
    (Or.inr (setAt_self ..)) (hA.delivOff (by simpa [or_assoc] using Or.inl hph)) (by simp [Ph.live])
    (Or.inl ⟨rfl, by simp⟩)

/-- `co_run` of `s` begins and enters its main loop, its entry jobs having got their tasks -/
theorem invB_beginLoop {c : Cfg} (w : WF c) {st : StB} {s : Nat} {rf' : Nat → Bool} {en' qc' : Nat → Nat}
    (hA : InvA c st.a) (hinv : InvB c st) (hph : s = 0 ∧ st.a.ph s = .idle ∨ st.a.ph s = .queued)
    (hr : s < c.n ∧ c.isSched s = true) (he : c.children s ≠ []) :
    InvB c (beginB c st s (startJobs { st.a with ph := setAt st.a.ph s .running, rflag := rf',
                                                 pc := setAt st.a.pc s .loop, qcount := qc',
                                                 rx := setAt st.a.rx s none, entries := en' } (entrySet c s))) := by
  have hnb : st.pcB s = .notBegun := hinv.notBegun_of hA fun _ => hph.imp_left And.right
  have hch : ∀ k ∈ c.children s, k ≠ s ∧ st.a.ph k = .idle := fun k hk =>
    ⟨fun e => not_self_child w s (e ▸ hk), hA.childrenIdle ((hinv.pcNotBegun s).1 hnb) k hk⟩
  have h1 := invB_task (v := .running) (rf' := rf') (en' := en') (qc' := qc') hinv (Or.inl hnb)
    (hA.delivOff (by rcases hph with ⟨_, h⟩ | h <;> simp [h]))
    (fun _ => hph.symm.imp (by simp +contextual [Ph.live]) And.left) (Or.inl ⟨rfl, by simp⟩)
  have h2 := invB_enterLoop h1 hnb hr (setAt_self ..) fun k hk => by
    simp [setAt, (hch k hk).1, (hch k hk).2, hA.creqOff (hch k hk).2, hA.delivOff (Or.inl (hch k hk).2)]
  rw [beginB_of_ne he]
  exact invB_startJobs h2 (s := s) (setAt_self ..) fun k hk => (mem_entrySet.1 hk).1

/-- `co_shutdown` of `s`, which has not shut down yet and has no unfinished job, broadcasts: one handler per job.
    Called by `co_run` of `s` once it has tidied up (`wh = inline`; the run then waits for the handlers, `q = shut x`), or
    by the relay of `s` (`wh = relay`) while no run of `s` is in progress (`q` is `pcB s`) -/
theorem invB_broadcast {c : Cfg} (w : WF c) {st : StB} {s : Nat} {wh : Who} {q : PcB} (hinv : InvB c st)
    (hnd : st.didSd s = false) (hr : s < c.n ∧ c.isSched s = true)
    (hquiet : ∀ k ∈ c.children s, (st.a.ph k).live = false)
    (hq : (wh = .inline ∧ ∃ x, st.pcB s = .tidy x ∧ q = .shut x) ∨
      (wh = .relay ∧ q = st.pcB s ∧ st.hph s = .hactive ∧ (st.pcB s = .notBegun ∨ st.pcB s = .over))) :
    InvB c { broadcast c st s wh with pcB := setAt st.pcB s q } := by
  have hself := not_self_child w s
  have hc0 : ∀ k ∈ c.children s, st.hcalls k = 0 := fun k hk => (hinv.hph_none_of_didSd hk hnd).1
  obtain ⟨hk, hx⟩ : SameKind (st.pcB s) q ∧ q.exitOf = (st.pcB s).exitOf := by
    rcases hq with ⟨_, x, h, rfl⟩ | ⟨_, rfl, _⟩
    · exact ⟨.of_exiting (by simp [h, PcB.exiting]) rfl, by simp [h, PcB.exitOf]⟩
    · exact ⟨.refl _, rfl⟩
  have hk := hk.setAt
  have hx := setAt_congr PcB.exitOf hx
  obtain ⟨hqLoop, hqShutTidy, hqShut, hqNotBegun⟩ : q ≠ .loop ∧ (∀ y, q ≠ .shutTidy y) ∧
      ((∃ y, q = .shut y) ↔ wh = .inline) ∧ (q = .notBegun → st.hph s = .hactive) := by
    rcases hq with ⟨rfl, x, _, rfl⟩ | ⟨rfl, rfl, h, h' | h'⟩ <;> simp [*]
  have hch : ∀ {k}, 0 < k → k < c.n → (k ∈ c.children s ↔ c.parent k = s) := fun {k} h0 hn => by
    simp [mem_children, hn]; omega
  unfold broadcast
  exact
  { hinv.byKind hk, hinv with
    hcallsLe := fun k => by by_cases hk : k ∈ c.children s <;> simp [hk, hc0, hinv.hcallsLe k]
    hcallsDid := fun k h0 hn => by
      by_cases hk : k ∈ c.children s
      · simp [hk, hc0 k hk, (hch h0 hn).1 hk, setAt]
      · have e : c.parent k ≠ s := fun e => hk ((hch h0 hn).2 e)
        simpa [hk, setAt, e] using hinv.hcallsDid k h0 hn
    hphNone := fun k => by by_cases hk : k ∈ c.children s <;> simp [hk, hinv.hphNone k]
    bcNone := fun s' => by by_cases e : s' = s <;> simp [setAt, e, hinv.bcNone s']
    bcInlineWait := fun s' => by
      by_cases e : s' = s
      · subst e; cases wh <;> simpa [setAt] using hqShut
      · simpa [setAt, e] using hinv.bcInlineWait s'
    bcInlineTidy := fun s' => by
      by_cases e : s' = s
      · subst e; simpa [setAt] using hqShutTidy
      · simpa [setAt, e] using hinv.bcInlineTidy s'
    bcRelay := fun s' hr' => by
      by_cases e : s' = s
      · subst e
        rcases hq with ⟨rfl, _⟩ | ⟨_, _, h, _⟩
        · simp [relayActive, setAt] at hr'
        · exact ⟨by simpa [hself] using h, hr.2⟩
      · have := hinv.bcRelay s' (by simpa [relayActive, setAt, e] using hr')
        exact ⟨by simp only; split <;> simp [this.1], this.2⟩
    hactiveBc := fun k h0 hn hh => by
      by_cases hk : k ∈ c.children s
      · simp [(hch h0 hn).1 hk, setAt, Bc.isWait]
      · have e : c.parent k ≠ s := fun e => hk ((hch h0 hn).2 e)
        simpa [setAt, e] using hinv.hactiveBc k h0 hn (by simpa [hk] using hh)
    hcreqActive := fun k hc => by
      have hk : k ∉ c.children s := fun hk => by simp [hk] at hc
      refine (hinv.hcreqActive k (by simpa [hk] using hc)).imp (by simp [hk]) fun h => ⟨h.1, by simp [hk, h.2.1], ?_⟩
      simp only [setAt]; split <;> simp [h.2.2]
    overDid := fun s' hn hs ho hne => by
      by_cases e : s' = s
      · simp [setAt, e]
      · simpa [setAt, e] using hinv.overDid s' hn hs ((hk s').over.1 ho) hne
    sdQuiet := fun s' hd k hk => by
      by_cases e : s' = s
      · exact hquiet k (e ▸ hk)
      · exact hinv.sdQuiet s' (by simpa [setAt, e] using hd) k hk
    relayIdle := fun s' hs h0 hh => by
      by_cases hk : s' ∈ c.children s
      · exact hquiet s' hk
      · exact hinv.relayIdle s' hs h0 (by simpa [hk] using hh)
    hdeadlineEq := fun s' hw => by
      by_cases e : s' = s
      · simp [setAt, e]
      · simpa [setAt, e] using hinv.hdeadlineEq s' (by simpa [setAt, e] using hw)
    hdeadlineGe := fun s' dl hw hd => by
      by_cases e : s' = s
      · subst e
        cases ht : c.sdTimeout s' <;> simp [setAt, ht] at hd
        simp [setAt]; omega
      · simpa [setAt, e] using hinv.hdeadlineGe s' dl (by simpa [setAt, e] using hw) (by simpa [setAt, e] using hd)
    didSdLoop := fun s' hd => by
      by_cases e : s' = s
      · simpa [setAt, e] using hqLoop
      · exact fun h => hinv.didSdLoop s' (by simpa [setAt, e] using hd) ((hk s').loop.1 h)
    didSdBegun := fun s' hd hn => by
      by_cases e : s' = s
      · subst e; simp [hself, hqNotBegun (by simpa using hn)]
      · have := hinv.didSdBegun s' (by simpa [setAt, e] using hd) ((hk s').notBegun.1 hn)
        simp only; split <;> simp [this]
    didSdRange := fun s' hd => by
      by_cases e : s' = s
      · exact e ▸ hr
      · exact hinv.didSdRange s' (by simpa [setAt, e] using hd)
    hcallsRange := fun k hk => by
      by_cases hks : k ∈ c.children s
      · have := mem_children.1 hks; omega
      · exact hinv.hcallsRange k (by simpa [hks] using hk)
    shutQuiet := fun s' y hs => by
      by_cases e : s' = s
      · exact fun k hk => hquiet k (e ▸ hk)
      · exact hinv.shutQuiet s' y (by simpa [setAt, e] using hs)
    diagClear := fun s' ho => hx s' ▸ hinv.diagClear s' fun h => ho ((hk s').over.2 h)
    failTSet := fun s' h => hinv.failTSet s' ((hx s').symm.trans h)
    failCSet := fun s' h => hinv.failCSet s' ((hx s').symm.trans h)
    cancelledArr := fun s' h => hinv.cancelledArr s' ((hx s').symm.trans h) }

/-- the bounded wait of the broadcast of `s` is cut short (its timeout elapsed, or a `CancelledError` was delivered):
    `cancel()` is called on the handlers still pending, and waited for; when the broadcast is that of `co_run` of `s`
    (`wh = inline`) the run moves on accordingly (`q`; with `wh = relay`, `q` is `pcB s`) -/
theorem invB_sdCut {c : Cfg} {st : StB} {s : Nat} {wh : Who} {q : PcB} {hca' : Nat → Bool}
    (hinv : InvB c st) (hbc : st.bc s = .bwait wh)
    (hq : (wh = .inline ∧ ∃ x, st.pcB s = .shut x ∧ q = .shutTidy x) ∨ (wh = .relay ∧ q = st.pcB s)) :
    InvB c { st with bc := setAt st.bc s (.btidy wh), pcB := setAt st.pcB s q, hcarrived := hca',
                     hcreq := fun k => st.hcreq k || decide (k ∈ activeHandlers c st s) } := by
  obtain ⟨hk, hx⟩ : SameKind (st.pcB s) q ∧ q.exitOf = (st.pcB s).exitOf := by
    rcases hq with ⟨_, x, h, rfl⟩ | ⟨_, rfl⟩
    · exact ⟨.of_exiting (by simp [h, PcB.exiting]) rfl, by simp [h, PcB.exitOf]⟩
    · exact ⟨.refl _, rfl⟩
  have hk := hk.setAt
  have hx := setAt_congr PcB.exitOf hx
  exact
  { hinv.byKind hk, hinv with
    bcNone := fun s' => by by_cases e : s' = s <;> simp [setAt, e, ← hinv.bcNone, hbc]
    bcInlineWait := fun s' => by
      by_cases e : s' = s
      · subst e
        rcases hq with ⟨_, x, _, rfl⟩ | ⟨rfl, rfl⟩
        · simp [setAt]
        · simpa [setAt, hbc] using hinv.bcInlineWait s'
      · simpa [setAt, e] using hinv.bcInlineWait s'
    bcInlineTidy := fun s' => by
      by_cases e : s' = s
      · subst e
        rcases hq with ⟨rfl, x, _, rfl⟩ | ⟨rfl, rfl⟩
        · simp [setAt]
        · simpa [setAt, hbc] using hinv.bcInlineTidy s'
      · simpa [setAt, e] using hinv.bcInlineTidy s'
    bcRelay := fun s' hr => by
      by_cases e : s' = s
      · subst e; exact hinv.bcRelay s' (by simpa [relayActive, setAt, hbc] using hr)
      · exact hinv.bcRelay s' (by simpa [relayActive, setAt, e] using hr)
    hactiveBc := fun k h0 hn hh => by
      by_cases e : c.parent k = s
      · simp [setAt, e, Bc.isTidy]
      · simpa [setAt, e] using hinv.hactiveBc k h0 hn hh
    hcreqActive := fun k hc => by
      simp only [Bool.or_eq_true, decide_eq_true_eq] at hc
      exact hc.elim (hinv.hcreqActive k) fun h => Or.inl (mem_activeHandlers.1 h).2
    hdeadlineEq := fun s' hw => hinv.hdeadlineEq s' (setAt_elim (Bc.isWait · = true) hw (by simp [Bc.isWait])).2
    hdeadlineGe := fun s' dl hw => hinv.hdeadlineGe s' dl (setAt_elim (Bc.isWait · = true) hw (by simp [Bc.isWait])).2
    shutQuiet := fun s' y hs => by
      by_cases e : s' = s
      · subst e
        rcases hq with ⟨_, x, h, _⟩ | ⟨_, rfl⟩
        · exact hinv.shutQuiet s' x (Or.inl h)
        · exact hinv.shutQuiet s' y (by simpa using hs)
      · exact hinv.shutQuiet s' y (by simpa [setAt, e] using hs)
    diagClear := fun s' ho => hx s' ▸ hinv.diagClear s' fun h => ho ((hk s').over.2 h)
    failTSet := fun s' h => hinv.failTSet s' ((hx s').symm.trans h)
    failCSet := fun s' h => hinv.failCSet s' ((hx s').symm.trans h)
    cancelledArr := fun s' h => hinv.cancelledArr s' ((hx s').symm.trans h) }

/-- the broadcast of `s` is over, every handler having finished. When it is that of `co_run` of `s`, the run is where the
    return of its tidy wait had left it, with `_did_shutdown` set (`q = tidy x`); else `q` is `pcB s` -/
theorem invB_sdOver {c : Cfg} {st : StB} {s : Nat} {q : PcB} (hinv : InvB c st)
    (hact : ∀ k ∈ c.children s, st.hph k ≠ .hactive)
    (hq : (∃ x, (st.pcB s = .shut x ∨ st.pcB s = .shutTidy x) ∧ q = .tidy x) ∨
      (relayActive st s = true ∧ q = st.pcB s)) :
    InvB c { st with bc := setAt st.bc s .bover, pcB := setAt st.pcB s q } := by
  obtain ⟨hk, hx⟩ : SameKind (st.pcB s) q ∧ q.exitOf = (st.pcB s).exitOf := by
    rcases hq with ⟨x, h | h, rfl⟩ | ⟨_, rfl⟩
    · exact ⟨.of_exiting (by simp [h, PcB.exiting]) rfl, by simp [h, PcB.exitOf]⟩
    · exact ⟨.of_exiting (by simp [h, PcB.exiting]) rfl, by simp [h, PcB.exitOf]⟩
    · exact ⟨.refl _, rfl⟩
  have hk := hk.setAt
  have hx := setAt_congr PcB.exitOf hx
  obtain ⟨hbn, hqw, hqt⟩ : st.bc s ≠ .bnone ∧ (∀ y, q ≠ .shut y) ∧ ∀ y, q ≠ .shutTidy y := by
    rcases hq with ⟨x, h | h, rfl⟩ | ⟨h, rfl⟩
    · exact ⟨by simp [(hinv.bcInlineWait s).2 ⟨x, h⟩], by simp, by simp⟩
    · exact ⟨by simp [(hinv.bcInlineTidy s).2 ⟨x, h⟩], by simp, by simp⟩
    · replace h := relayActive_iff.1 h
      refine ⟨by rcases h with h | h <;> simp [h], fun y hy => ?_, fun y hy => ?_⟩
      · have := (hinv.bcInlineWait s).2 ⟨y, hy⟩; rcases h with h | h <;> simp [h] at this
      · have := (hinv.bcInlineTidy s).2 ⟨y, hy⟩; rcases h with h | h <;> simp [h] at this
  exact
  { hinv.byKind hk, hinv with
    bcNone := fun s' => by by_cases e : s' = s <;> simp [setAt, e, ← hinv.bcNone, hbn]
    bcInlineWait := fun s' => by by_cases e : s' = s <;> simp [setAt, e, hinv.bcInlineWait s', hqw]
    bcInlineTidy := fun s' => by by_cases e : s' = s <;> simp [setAt, e, hinv.bcInlineTidy s', hqt]
    bcRelay := fun s' hr => by
      have e : s' ≠ s := fun e => by simp [relayActive, setAt, e] at hr
      exact hinv.bcRelay s' (by simpa [relayActive, setAt, e] using hr)
    hactiveBc := fun k h0 hn hh => by
      have e : c.parent k ≠ s := fun e => hact k (mem_children.2 ⟨hn, by omega, e⟩) hh
      simpa [setAt, e] using hinv.hactiveBc k h0 hn hh
    hdeadlineEq := fun s' hw => hinv.hdeadlineEq s' (setAt_elim (Bc.isWait · = true) hw (by simp [Bc.isWait])).2
    hdeadlineGe := fun s' dl hw => hinv.hdeadlineGe s' dl (setAt_elim (Bc.isWait · = true) hw (by simp [Bc.isWait])).2
    shutQuiet := fun s' y hs => by
      obtain ⟨e, hs⟩ := setAt_elim (fun p => p = PcB.shut y ∨ p = .shutTidy y) hs (by simp [hqw, hqt])
      exact hinv.shutQuiet s' y hs
    diagClear := fun s' ho => hx s' ▸ hinv.diagClear s' fun h => ho ((hk s').over.2 h)
    failTSet := fun s' h => hinv.failTSet s' ((hx s').symm.trans h)
    failCSet := fun s' h => hinv.failCSet s' ((hx s').symm.trans h)
    cancelledArr := fun s' h => hinv.cancelledArr s' ((hx s').symm.trans h) }

/-- the handler of `j`, which is not (or no longer) broadcasting, ends as `h'` (returned or cancelled) -/
theorem invB_handlerEnd {c : Cfg} {st : StB} {j : Nat} {h' : Hph} {cr : Bool} {sv' : Nat → Option Bool}
    (hinv : InvB c st) (hj0 : 0 < j) (hh : st.hph j = .hactive) (hh' : h' = .hdone ∨ h' = .hcancelled)
    (hcr : cr = true → c.isSched j = true ∧ h' = .hdone ∧ st.didSd j = true) (hra : relayActive st j = false) :
    InvB c { st with hph := setAt st.hph j h', hcreq := setAt st.hcreq j cr, sdValue := sv' } := by
  have hhn : h' ≠ .hnone ∧ h' ≠ .hactive := by rcases hh' with rfl | rfl <;> simp
  exact
  { hinv with
    hphNone := fun k => by by_cases e : k = j <;> simp [setAt, e, ← hinv.hphNone, hh, hhn]
    bcRelay := fun s' hr => by
      have hr : relayActive st s' = true := hr
      have e : s' ≠ j := fun e => by simp [e, hra] at hr
      simpa [setAt, e] using hinv.bcRelay s' hr
    hactiveBc := fun k h0 hn hk =>
      hinv.hactiveBc k h0 hn (setAt_elim (· = Hph.hactive) hk hhn.2).2
    hcreqActive := fun k hc => by
      by_cases e : k = j
      · subst e
        obtain ⟨h1, h2, h3⟩ := hcr (by simpa [setAt] using hc)
        exact Or.inr ⟨h1, by simp [setAt, h2], h3⟩
      · simpa [setAt, e] using hinv.hcreqActive k (by simpa [setAt, e] using hc)
    relayIdle := fun s' hs h0 hk => by
      by_cases e : s' = j
      · exact e ▸ hinv.relayIdle j (e ▸ hs) hj0 (by simp [hh])
      · exact hinv.relayIdle s' hs h0 (by simpa [setAt, e] using hk)
    didSdBegun := fun s' hd hn => by
      by_cases e : s' = j
      · simpa [setAt, e] using hhn.1
      · simpa [setAt, e] using hinv.didSdBegun s' hd hn }

/-- `co_run` of `s` ends when the wait of its own `co_shutdown` returns, every handler having finished -/
theorem invB_finishSd {c : Cfg} {st : StB} {s : Nat} {x : Exit} {r : Option Res} {qc' : Nat → Nat}
    {sv' : Nat → Option Bool} (hinv : InvB c st) (hA : InvA c st.a)
    (hpc : st.pcB s = .shut x ∨ st.pcB s = .shutTidy x) (hr : r = none → x = .cancelled)
    (hact : ∀ k ∈ c.children s, st.hph k ≠ .hactive) :
    InvB c { st with a := { st.a with pc := setAt st.a.pc s .over, ph := setAt st.a.ph s (finPh r),
                                      creq := setAt st.a.creq s false, qcount := qc' },
                     pcB := setAt st.pcB s .over, bc := setAt st.bc s .bover, sdValue := sv' } := by
  have hds : st.didSd s = true := hinv.didSd_of_bc (by
    rcases hpc with h | h
    · rw [(hinv.bcInlineWait s).2 ⟨x, h⟩]; nofun
    · rw [(hinv.bcInlineTidy s).2 ⟨x, h⟩]; nofun)
  have h := invB_finish (qc' := qc') (sv' := sv') (invB_sdOver hinv hact (Or.inl ⟨x, hpc, rfl⟩)) hA (setAt_self ..) hr
    hds (hinv.shutQuiet s x hpc)
  rwa [setAt_setAt] at h

/-- the relay of `s` ends as `h'` when the wait of the broadcast it made returns, every handler having finished -/
theorem invB_relayEnd {c : Cfg} {st : StB} {s : Nat} {h' : Hph} {cr : Bool} {sv' : Nat → Option Bool}
    (hinv : InvB c st) (hra : relayActive st s = true) (hact : ∀ k ∈ c.children s, st.hph k ≠ .hactive)
    (hh' : h' = .hdone ∨ h' = .hcancelled) (hcr : cr = true → h' = .hdone) :
    InvB c { st with bc := setAt st.bc s .bover, hph := setAt st.hph s h', hcreq := setAt st.hcreq s cr,
                     sdValue := sv' } := by
  have hrel := hinv.bcRelay s hra
  have h0 := (hinv.handler_range (k := s) (by simp [hrel.1])).1
  have hds : st.didSd s = true := hinv.didSd_of_bc fun h => by simp [relayActive, h] at hra
  have h := invB_handlerEnd (sv' := sv') (invB_sdOver hinv hact (Or.inr ⟨hra, rfl⟩)) h0 hrel.1 hh'
    (fun h => ⟨hrel.2, hcr h, hds⟩) (by simp [relayActive])
  rwa [setAt_eq_self] at h

theorem InvB.step {c : Cfg} (w : WF c) {st st' : StB} {e : EvB} (hA : InvA c st.a) (hinv : InvB c st)
    (h : StepB c st e st') : InvB c st' := by
  have hnoRun : ∀ {j}, c.isSched j = false → st.pcB j = .notBegun := fun hs =>
    hinv.notBegun_of hA fun h => by simp [hs] at h
  have hnoRelay : ∀ {j}, c.isSched j = false → relayActive st j = false := fun hs =>
    Bool.eq_false_iff.2 fun h => by simpa [hs] using (hinv.bcRelay _ h).2
  cases h
  case runBegin a' ha =>
    cases ha
    case runBeginEmpty hph hpc he => exact invB_beginEmpty hA hinv (Or.inl hph) ⟨w.npos, w.sched0⟩ he
    case runBegin hph hpc he => exact invB_beginLoop w hA hinv (Or.inl ⟨rfl, hph⟩) ⟨w.npos, w.sched0⟩ he
  case grantJob j a' ha hs =>
    cases ha
    case grantJob hph _ _ _ =>
      exact invB_task hinv (Or.inl (hnoRun hs)) (hA.delivOff (by simp [hph])) (by simp [hph, Ph.live])
        (Or.inl ⟨rfl, by simp⟩)
    case grantEmpty hs' _ => simp [hs] at hs'
    case grantSched hs' _ => simp [hs] at hs'
  case grantSched j a' ha hs =>
    cases ha
    case grantJob hs' => simp [hs] at hs'
    case grantEmpty hj0 hjn hph hcr hslot _ he => exact invB_beginEmpty hA hinv (Or.inr hph) ⟨hjn, hs⟩ he
    case grantSched hj0 hjn hph hcr hslot _ he => exact invB_beginLoop w hA hinv (Or.inr hph) ⟨hjn, hs⟩ he
  case bodyEnd j ok a' ha =>
    cases ha
    case bodyEnd hj0 hjn hs hph hcr =>
      exact invB_task hinv (Or.inl (hnoRun hs)) (hA.delivOff (by simp [hph])) (by simp [Ph.live])
        (Or.inl ⟨rfl, by simp⟩)
  case cancelAck j a' ha =>
    cases ha
    case cancelQueued hj0 hjn hcr hph =>
      exact invB_task hinv (Or.inl (hinv.notBegun_of hA fun _ => Or.inr hph)) (hA.delivOff (by simp [hph]))
        (by simp [Ph.live]) (Or.inr ⟨rfl, rfl, fun _ => hcr⟩)
    case cancelRunning hj0 hjn hcr hph hs =>
      exact invB_task hinv (Or.inl (hnoRun hs)) (hA.delivOff (by simp [hph])) (by simp [Ph.live])
        (Or.inr ⟨rfl, rfl, fun _ => hcr⟩)
  case cancelLoop s a' hsn hs hph hcr hca hpc ha =>
    cases ha
    exact invB_exitLoop (invB_carrived hinv (by simp [hpc]) hcr) hpc fun _ => setAt_self ..
  case waitReturn s a' hpc hcp ha =>
    cases ha
    case waitReturn _ _ _ hrx _ => exact invB_waitReturn hinv hrx
  case reactCritical s D a' hpc hrx hcp hcrit ha => cases ha; exact invB_exitLoop hinv hpc nofun
  case reactSuccess s D a' hpc hrx hcp hcrit hnb ha =>
    cases ha; exact invB_nbDone (s := s) (invB_exitLoop (x := .success) hinv hpc nofun) (by simp [exitLoop]) _
  case reactTimeout s D a' hpc hrx hcp hcrit hnb hexp ha =>
    cases ha; exact invB_nbDone (s := s) (invB_exitLoop (x := .timeout) hinv hpc nofun) (by simp [exitLoop]) _
  case reactGo s D a' hpc hrx hcp hcrit hnb hexp ha =>
    cases ha
    exact invB_startJobs (invB_reacted hA hinv hrx hcrit) hpc fun k hk => (mem_startCands.1 hk).1
  case orchFail s D a' hpc hrx hcp ha => cases ha; exact invB_exitLoop hinv hpc nofun
  case timeoutFire s a' hpc hcp hrx hD hexp ha => cases ha; exact invB_exitLoop hinv hpc nofun
  case cancelTidy s x hsn hs hph hcr hca hpc =>
    exact invB_cancelExit (invB_carrived hinv (by simp [hpc]) hcr) (setAt_self ..) (Or.inl ⟨hpc, rfl⟩)
  case cancelShutTidy s x hsn hs hph hcr hca hpc =>
    exact invB_cancelExit (invB_carrived hinv (by simp [hpc]) hcr) (setAt_self ..) (Or.inr ⟨hpc, rfl⟩)
  case cancelShut s x hsn hs hph hcr hca hpc =>
    -- the bounded wait is cut short as by its timeout, then the cancellation arrives in `_tidy_tasks`
    have h1 := invB_sdCut (hca' := st.hcarrived) hinv ((hinv.bcInlineWait s).2 ⟨x, hpc⟩) (Or.inl ⟨rfl, x, hpc, rfl⟩)
    simpa only [setAt_setAt] using
      invB_cancelExit (x := x) (invB_carrived h1 (by simp) hcr) (setAt_self ..) (Or.inr ⟨setAt_self .., rfl⟩)
  case tidyFinish s pick x r a' hpc hlive hcp hsd hv ha =>
    cases ha <;> exact invB_finish hinv hA hpc (fun h => verdict_none (h ▸ hv)) hsd (liveChildren_nil hlive)
  case sdWaitInline s pick x r a' hact hcp hhp hbc hpc hv ha =>
    cases ha <;>
      exact invB_finishSd hinv hA (Or.inl hpc) (fun h => verdict_none (h ▸ hv)) (activeHandlers_nil hact)
  case sdTidyInline s pick x r a' hact hcp hhp hbc hpc hv ha =>
    cases ha <;>
      exact invB_finishSd hinv hA (Or.inr hpc) (fun h => verdict_none (h ▸ hv)) (activeHandlers_nil hact)
  case tidyShut s pick x hpc hlive hcp hsd =>
    exact invB_broadcast w hinv hsd (hinv.pcRange s (by simp [hpc])) (liveChildren_nil hlive)
      (Or.inl ⟨rfl, x, hpc, rfl⟩)
  case hStep j hj0 hjn hs hh hra hsd =>
    have hpcj : st.pcB j = .notBegun ∨ st.pcB j = .over := hinv.relayed_idle (by simp [hh])
    have hq : ∀ k ∈ c.children j, (st.a.ph k).live = false := fun k hk => by
      rcases hpcj with h1 | h1
      · simp [hA.childrenIdle ((hinv.pcNotBegun j).1 h1) k hk, Ph.live]
      · exact hinv.overQuiet j h1 k hk
    have h := invB_broadcast w hinv hsd ⟨hjn, hs⟩ hq (Or.inr ⟨rfl, rfl, hh, hpcj⟩)
    rwa [setAt_eq_self] at h
  case hStepDone j hj0 hjn hs hh hra hsd =>
    simpa only [setAt_eq_self] using
      invB_handlerEnd (cr := st.hcreq j) hinv hj0 hh (Or.inl rfl) (fun _ => ⟨hs, rfl, hsd⟩) hra
  case hEnd j hj0 hjn hs hh hcr =>
    simpa only [setAt_eq_self] using
      invB_handlerEnd (cr := st.hcreq j) (sv' := st.sdValue) hinv hj0 hh (Or.inl rfl) (fun h => by simp [hcr] at h)
        (hnoRelay hs)
  case hCancelAck j hj0 hjn hs hh hcr =>
    exact invB_handlerEnd (sv' := st.sdValue) hinv hj0 hh (Or.inr rfl) nofun (hnoRelay hs)
  case hCancelWait s hs0 hsn hs hh hcr hca hbc =>
    simpa only [setAt_eq_self] using invB_sdCut (q := st.pcB s) hinv hbc (Or.inr ⟨rfl, rfl⟩)
  case hCancelTidy => exact { hinv with }
  case sdWaitRelay s pick hact hcp hhp hbc =>
    simpa only [setAt_eq_self] using
      invB_relayEnd (cr := st.hcreq s) hinv (relayActive_iff.2 (.inl hbc)) (activeHandlers_nil hact) (Or.inl rfl)
        fun _ => rfl
  case sdTidyRelay s pick hact hcp hhp hbc =>
    exact invB_relayEnd hinv (relayActive_iff.2 (.inr hbc)) (activeHandlers_nil hact) (by split <;> simp) nofun
  case sdTimeoutInline s x hbc hact hexp hcp hhp hpc =>
    exact invB_sdCut (hca' := st.hcarrived) hinv hbc (Or.inl ⟨rfl, x, hpc, rfl⟩)
  case sdTimeoutOther s wh hbc hact hexp hcp hhp hno =>
    obtain rfl : wh = .relay := hno.elim id fun h => by
      cases wh
      · exact absurd ((hinv.bcInlineWait s).1 hbc) fun ⟨x, hx⟩ => h x hx
      · rfl
    simpa only [setAt_eq_self] using
      invB_sdCut (q := st.pcB s) (hca' := st.hcarrived) hinv hbc (Or.inr ⟨rfl, rfl⟩)
  case tick d hq hdl hsd hd hcalm =>
    exact
    { hinv with
      deadlineGe := fun s' dl' hl hd' => by
        have := hinv.deadlineGe s' dl' hl hd'
        have := hdl s' (List.mem_range.2 (hinv.pcRange s' (by simp [show st.pcB s' = .loop from hl])).1) hl
        simp only [show st.deadline s' = some dl' from hd', within, decide_eq_true_eq] at this
        simp only
        omega
      hdeadlineGe := fun s' dl' hl hd' => by
        have := hinv.hdeadlineGe s' dl' hl hd'
        have hl' : (st.bc s').isWait = true := hl
        have hds : st.didSd s' = true := hinv.didSd_of_bc fun h => by rw [h] at hl'; cases hl'
        have := hsd s' (List.mem_range.2 (hinv.didSdRange s' hds).1) hl
        simp only [show st.hdeadline s' = some dl' from hd', within, decide_eq_true_eq] at this
        simp only
        omega }
  case extCancel a' ha =>
    cases ha
    case extCancel hph hcr =>
    exact
    { hinv with
      loopClean := fun s' hl k hk => by
        have e : k ≠ 0 := fun e => zero_not_child s' (e ▸ hk)
        simpa [setAt, e] using hinv.loopClean s' hl k hk
      exitCancelled := fun s' he k hk hl => by
        have e : k ≠ 0 := fun e => zero_not_child s' (e ▸ hk)
        simpa [setAt, e] using hinv.exitCancelled s' he k hk hl
      carrivedCreq2 := fun s' hc => by
        by_cases e : s' = 0
        · exact Or.inl (by simp [setAt, e])
        · simpa [setAt, e] using hinv.carrivedCreq2 s' hc }

theorem invB_init (c : Cfg) : InvB c StB.init := by
  constructor <;> intros <;>
    simp_all [StB.init, StA.init, relayActive, PcB.exiting, PcB.exitOf, Bc.isWait]

theorem invB_step (c : Cfg) (hwf : c.wf = true) (st st' : StB) (e : EvB)
    (hA : InvA c st.a) (hinv : InvB c st) (h : stepB c st e = some st') : InvB c st' :=
  hinv.step (wf_of hwf) hA (.of_stepB h)

theorem invA_stepB (c : Cfg) (hwf : c.wf = true) (st st' : StB) (e : EvB)
    (hA : InvA c st.a) (h : stepB c st e = some st') : InvA c st'.a := by
  rcases (StepB.of_stepB h).proj with heq | ⟨ea, _, ha⟩
  · rw [heq]; exact hA
  · exact hA.step (wf_of hwf) ha

/-- induction along a history, with the two invariants of the state before each step at hand -/
theorem inv_induction {c : Cfg} (hwf : c.wf = true) {P : List EvB → StB → Prop} {st0 st : StB} {evs : List EvB}
    (h : acceptB c st0 evs = some st) (hA : InvA c st0.a) (hB : InvB c st0) (h0 : P [] st0)
    (hstep : ∀ pre st1 e st2, acceptB c st0 pre = some st1 → InvA c st1.a → InvB c st1 → P pre st1 →
      stepB c st1 e = some st2 → P (pre ++ [e]) st2) : InvA c st.a ∧ InvB c st ∧ P evs st :=
  (isRunB c).induction (P := fun evs st => InvA c st.a ∧ InvB c st ∧ P evs st) h ⟨hA, hB, h0⟩
    fun pre st1 e st2 h1 ⟨hA1, hB1, hP⟩ hs =>
      ⟨invA_stepB c hwf st1 st2 e hA1 hs, invB_step c hwf st1 st2 e hA1 hB1 hs, hstep pre st1 e st2 h1 hA1 hB1 hP hs⟩

theorem reach_induction {c : Cfg} (hwf : c.wf = true) {P : List EvB → StB → Prop} {st : StB} {evs : List EvB}
    (h : acceptB c StB.init evs = some st) (h0 : P [] StB.init)
    (hstep : ∀ pre st1 e st2, acceptB c StB.init pre = some st1 → InvA c st1.a → InvB c st1 → P pre st1 →
      stepB c st1 e = some st2 → P (pre ++ [e]) st2) : P evs st :=
  (inv_induction hwf h (invA_init c) (invB_init c) h0 hstep).2.2

theorem invB_reach (c : Cfg) (hwf : c.wf = true) (evs : List EvB) (st : StB)
    (h : acceptB c StB.init evs = some st) : InvB c st :=
  (inv_induction (P := fun _ _ => True) hwf h (invA_init c) (invB_init c) trivial fun _ _ _ _ _ _ _ _ _ => trivial).2.1

/-- the `done` set of a pending reaction is not empty: the main wait returns only when it has something to report -/
theorem rx_nonempty (c : Cfg) (evs : List EvB) (st : StB) (h : acceptB c StB.init evs = some st) (s : Nat)
    (D : List Nat) (hD : st.a.rx s = some D) : D ≠ [] := by
  refine reachA_of_reachB (c := c) (P := fun a => ∀ s D, a.rx s = some D → D ≠ []) (by simp [StA.init]) ?_ h s D hD
  intro a e a' hp ha s D hD
  rcases rx_cases ha s with h1 | h1 | ⟨_, _, hne, h1⟩ <;> rw [h1] at hD
  · exact hp s D hD
  · cases hD
  · cases hD; exact hne

def Sometime (c : Cfg) (P : StB → Prop) (st0 : StB) (evs : List EvB) : Prop :=
  ∃ pre st1, pre <+: evs ∧ acceptB c st0 pre = some st1 ∧ P st1

theorem sometime_nil (c : Cfg) (P : StB → Prop) (st0 : StB) : Sometime c P st0 [] ↔ P st0 := by
  constructor
  · rintro ⟨pre, st1, hp, ha, hx⟩
    obtain rfl := List.prefix_nil.1 hp
    rw [(isRunB c).nil] at ha; cases ha; exact hx
  · exact fun hx => ⟨[], st0, List.nil_prefix, (isRunB c).nil _, hx⟩

theorem Sometime.append {c : Cfg} {P : StB → Prop} {st0 : StB} {evs : List EvB} (more : List EvB)
    (h : Sometime c P st0 evs) : Sometime c P st0 (evs ++ more) :=
  let ⟨pre, st1, hp, ha, hx⟩ := h
  ⟨pre, st1, hp.trans (List.prefix_append _ _), ha, hx⟩

theorem sometime_snoc {c : Cfg} {P : StB → Prop} {st0 st1 st2 : StB} {evs : List EvB} {e : EvB}
    (h1 : acceptB c st0 evs = some st1) (hs : stepB c st1 e = some st2) :
    Sometime c P st0 (evs ++ [e]) ↔ Sometime c P st0 evs ∨ P st2 := by
  constructor
  · rintro ⟨pre, st', hp, ha, hx⟩
    rcases List.prefix_concat_iff.1 hp with rfl | hp
    · obtain ⟨st1', h1', hs'⟩ := (isRunB c).snoc_some.1 ha
      obtain rfl := Option.some.inj (h1'.symm.trans h1)
      obtain rfl := Option.some.inj (hs'.symm.trans hs)
      exact Or.inr hx
    · exact Or.inl ⟨pre, st', hp, ha, hx⟩
  · rintro (h | hx)
    · exact h.append _
    · exact ⟨evs ++ [e], st2, List.prefix_refl _, (isRunB c).snoc_some.2 ⟨st1, h1, hs⟩, hx⟩

theorem sometime_cons (c : Cfg) (P : StB → Prop) (st0 st1 : StB) (e : EvB) (es : List EvB)
    (h : stepB c st0 e = some st1) : Sometime c P st0 (e :: es) ↔ P st0 ∨ Sometime c P st1 es := by
  constructor
  · rintro ⟨pre, st2, hp, ha, hx⟩
    cases pre with
    | nil => rw [(isRunB c).nil] at ha; cases ha; exact Or.inl hx
    | cons e' pre' =>
      obtain ⟨rfl, hp'⟩ := List.cons_prefix_cons.1 hp
      obtain ⟨st1', h1, h2⟩ := (isRunB c).cons_some.1 ha
      obtain rfl : st1 = st1' := Option.some.inj (h.symm.trans h1)
      exact Or.inr ⟨pre', st2, hp', h2, hx⟩
  · rintro (hx | ⟨pre, st2, hp, ha, hx⟩)
    · exact ⟨[], st0, List.nil_prefix, (isRunB c).nil _, hx⟩
    · exact ⟨e :: pre, st2, List.cons_prefix_cons.2 ⟨rfl, hp⟩, (isRunB c).cons_some.2 ⟨st1, h, ha⟩, hx⟩

/-
  The exit reason is kept in the program counter only while the run cleans up (and a cancellation delivered during
  the clean-up overwrites it), so "the run of `s` left its main loop on expiry", or "by a critical failure", is
  stated over the history: some prefix leads to a state where `co_run` of `s` is in the `_tidy_tasks` of
  `_abort_on_timeout` (`pcB s = .tidy .timeout`), resp. in the one that follows the detection of a critical failure
  (`pcB s = .tidy .critical`): states entered only from `.loop`.
  `timesOutFrom c s` / `critOutFrom c s` are `Sometime c (·.pcB s = .tidy .timeout / .tidy .critical)` written out;
  `sticky_iff_sometime`, `Sometime.append` apply to them by unfolding. -/

def timesOutFrom (c : Cfg) (s : Nat) (st0 : StB) (evs : List EvB) : Prop :=
  ∃ pre st1, pre <+: evs ∧ acceptB c st0 pre = some st1 ∧ st1.pcB s = .tidy .timeout

/-- the run of `s` leaves its main loop on expiry somewhere in the history `evs` -/
def timesOut (c : Cfg) (s : Nat) (evs : List EvB) : Prop := timesOutFrom c s StB.init evs

theorem timesOutFrom_nil (c : Cfg) (s : Nat) (st0 : StB) :
    timesOutFrom c s st0 [] ↔ st0.pcB s = .tidy .timeout :=
  sometime_nil c (fun st => st.pcB s = .tidy .timeout) st0

theorem timesOutFrom_cons (c : Cfg) (s : Nat) (st0 st1 : StB) (e : EvB) (es : List EvB)
    (h : stepB c st0 e = some st1) :
    timesOutFrom c s st0 (e :: es) ↔ st0.pcB s = .tidy .timeout ∨ timesOutFrom c s st1 es :=
  sometime_cons c (fun st => st.pcB s = .tidy .timeout) st0 st1 e es h

def critOutFrom (c : Cfg) (s : Nat) (st0 : StB) (evs : List EvB) : Prop :=
  ∃ pre st1, pre <+: evs ∧ acceptB c st0 pre = some st1 ∧ st1.pcB s = .tidy .critical

/-- the run of `s` leaves its main loop by a critical failure somewhere in the history `evs` -/
def critOut (c : Cfg) (s : Nat) (evs : List EvB) : Prop := critOutFrom c s StB.init evs

theorem critOutFrom_nil (c : Cfg) (s : Nat) (st0 : StB) :
    critOutFrom c s st0 [] ↔ st0.pcB s = .tidy .critical :=
  sometime_nil c (fun st => st.pcB s = .tidy .critical) st0

theorem critOutFrom_cons (c : Cfg) (s : Nat) (st0 st1 : StB) (e : EvB) (es : List EvB)
    (h : stepB c st0 e = some st1) :
    critOutFrom c s st0 (e :: es) ↔ st0.pcB s = .tidy .critical ∨ critOutFrom c s st1 es :=
  sometime_cons c (fun st => st.pcB s = .tidy .critical) st0 st1 e es h

end AJ.Proofs.CoreB

namespace AJ.Proofs.Gap1
open AJ.Run AJ.Full AJ.Proofs.CoreA AJ.Proofs.CoreB

/-- the hypothesis `InvA c st.a` of the one-step theorems of C01 / C04 holds in every reachable state
    (`CoreB.invA_of_reachB`, restated under the name the property files C01, C04 list) -/
theorem invA_reach' (c : Cfg) (hwf : c.wf = true) (evs : List EvB) (st : StB)
    (h : acceptB c StB.init evs = some st) : InvA c st.a :=
  invA_of_reachB c hwf evs st h

end AJ.Proofs.Gap1
