/-
  Configurations and `example`s only (with the computable checks `gCheck`, `beforeOk` they evaluate, `flipEvs_eq`, and
  the local macro `nt_norm_h`):
  the non-vacuity tests of the C06–C10 theorems of this namespace, which stand in ExitB, LatB, TmoB, SimB and ScopeB.
-/
import AJ.Proofs.SimB
import AJ.Proofs.TmoB
namespace AJ.Proofs.Gap2
open AJ.Run AJ.Full AJ.Proofs.CoreB
open AJ.Proofs.TmoB AJ.Proofs.SimB AJ.Proofs.ScopeB

local macro "nt_norm_h" h:ident : tactic => `(tactic| simp only [stepB, eraseDl_a, eraseDl_pcB, eraseDl_nbDone, eraseDl_carrived, eraseDl_didSd, eraseDl_bc, eraseDl_hdeadline, eraseDl_hph, eraseDl_hcreq, eraseDl_hcarrived, eraseDl_hcalls, eraseDl_failT, eraseDl_failC, eraseDl_sdValue, eraseDl_tbegin, eraseDl_tsd, noTimeout_n, noTimeout_parent, noTimeout_isSched, noTimeout_req, noTimeout_critical, noTimeout_forever, noTimeout_window, noTimeout_sdTimeout, noTimeout_topPure, cancelPending_nt, hcancelPending_nt, relayActive_nt, doneSet_nt, critIn_nt, nbFinite_nt, children_nt, liveChildren_nt, activeHandlers_nt, quietB_erase, stepA_noTimeout] at $h:ident)

/-- not in SimB.lean beside `flipEvs`: there Lean would reuse for the `match` of the statement the matcher compiled for
    `SimB.flipEv`, and the statement would name that one -/
theorem flipEvs_eq (K : List Nat) (hnd : K.Nodup) (e : EvB) :
    flipEvs K e = match e with
      | .bodyEnd j ok => .bodyEnd j (if j ∈ K then !ok else ok)
      | e => e := by
  induction K with
  | nil => cases e <;> simp [flipEvs_nil]
  | cons k K ih =>
    rw [flipEvs_cons, ih (List.nodup_cons.1 hnd).2]
    have hk := (List.nodup_cons.1 hnd).1
    cases e <;> try rfl
    rename_i j ok
    simp only [flipEv]
    by_cases hj : j = k
    · subst hj; simp [hk]
    · simp [hj]

def gCfg (crit1 : Bool) (tmo : Option Nat) : Cfg :=
  { n := 3, parent := fun _ => 0, isSched := fun j => j == 0, req := fun _ => [],
    critical := fun j => crit1 && j == 1, forever := fun _ => false, window := fun _ => 0,
    timeout := fun j => if j = 0 then tmo else none, sdTimeout := fun _ => none, topPure := true }

/-- the hypotheses of the one-step theorems on a history `evs ++ [e]`, as a computable check -/
def gCheck (c : Cfg) (evs : List EvB) (e : EvB) (x : Exit) : Bool :=
  match acceptB c StB.init evs with
  | none => false
  | some st0 =>
    match stepB c st0 e with
    | none => false
    | some st => decide (st0.pcB 0 = .loop) && decide (st.pcB 0 = .tidy x)

theorem gCheck_spec (c : Cfg) (evs : List EvB) (e : EvB) (x : Exit) (h : gCheck c evs e x = true) :
    ∃ st0 st, acceptB c StB.init evs = some st0 ∧ stepB c st0 e = some st ∧ st0.pcB 0 = .loop ∧ st.pcB 0 = .tidy x := by
  unfold gCheck at h
  split at h
  · cases h
  · rename_i st0 h0
    split at h
    · cases h
    · rename_i st h1
      simp only [Bool.and_eq_true, decide_eq_true_eq] at h
      exact ⟨st0, st, h0, h1, h.1, h.2⟩

/-- `regular_done_not_in_loop`: both jobs running, time can pass, scheduler `0` in its loop -/
example : (gCfg false none).wf = true ∧ 0 < nbFinite (gCfg false none) 0 ∧
    (acceptB (gCfg false none) StB.init [.runBegin, .grant 1, .grant 2]).map
      (fun st => (quietB (gCfg false none) st, st.pcB 0)) = some (true, .loop) := by
  decide

/-- … and once both jobs are finished time cannot pass before the run has left its loop -/
example : (acceptB (gCfg false none) StB.init
      [.runBegin, .grant 1, .grant 2, .tick 1, .bodyEnd 1 true, .bodyEnd 2 false]).map
      (fun st => (quietB (gCfg false none) st, st.pcB 0)) = some (false, .loop) := by
  decide

/-- `timeout_means_unreported` / `timeout_means_regular_pending`: the hypotheses hold for the expiry at instant 3
    (`timeoutFire`) and for the reaction that notices it -/
example : (gCfg false (some 3)).wf = true ∧ 0 < nbFinite (gCfg false (some 3)) 0 ∧
    gCheck (gCfg false (some 3)) [.runBegin, .grant 1, .grant 2, .tick 3] (.timeoutFire 0) .timeout = true ∧
    gCheck (gCfg false (some 3)) [.runBegin, .grant 1, .grant 2, .tick 3, .bodyEnd 1 true, .waitReturn 0]
      (.react 0) .timeout = true := by
  decide

/-- the hypothesis `hbefore` of `timeout_silent_conv`, as a computable check on the prefixes of the history -/
def beforeOk (c : Cfg) (s T : Nat) (evs : List EvB) : Bool :=
  (List.range (evs.length + 1)).all fun i =>
    match acceptB (noTimeout c s) StB.init (evs.take i) with
    | some sta => !decide (sta.pcB s = .loop) || decide (sta.a.now < sta.tbegin s + T)
    | none => true

theorem beforeOk_spec (c : Cfg) (s T : Nat) (evs : List EvB) (h : beforeOk c s T evs = true) :
    ∀ pre sta, pre <+: evs → acceptB (noTimeout c s) StB.init pre = some sta → sta.pcB s = .loop →
      sta.a.now < sta.tbegin s + T := by
  intro pre sta hp hacc hl
  unfold beforeOk at h
  rw [List.all_eq_true] at h
  have hlen : pre.length < evs.length + 1 := Nat.lt_succ_of_le hp.length_le
  have := h pre.length (List.mem_range.2 hlen)
  rw [← List.prefix_iff_eq_take.1 hp, hacc] at this
  simpa [hl] using this

/-- `timeout_silent_conv`: both jobs finish at instant 2 < 3: the history of the run without timeout satisfies the
    hypotheses, hence is a history of the run with timeout 3, which does not time out -/
example : ∃ st, acceptB (gCfg false (some 3)) StB.init
      [.runBegin, .grant 1, .grant 2, .tick 2, .bodyEnd 1 true, .bodyEnd 2 true, .waitReturn 0, .react 0] = some st ∧
    ¬ timesOut (gCfg false (some 3)) 0
      [.runBegin, .grant 1, .grant 2, .tick 2, .bodyEnd 1 true, .bodyEnd 2 true, .waitReturn 0, .react 0] := by
  have hacc : (acceptB (noTimeout (gCfg false (some 3)) 0) StB.init
      [.runBegin, .grant 1, .grant 2, .tick 2, .bodyEnd 1 true, .bodyEnd 2 true, .waitReturn 0, .react 0]).isSome = true := by
    decide
  obtain ⟨st', hst'⟩ := Option.isSome_iff_exists.1 hacc
  obtain ⟨st, h1, _, h3⟩ := timeout_silent_conv (gCfg false (some 3)) 0 3 rfl _ st' hst'
    (beforeOk_spec _ 0 3 _ (by decide))
  exact ⟨st, h1, h3⟩

/-- `creq_blocks_grant` / `grant_only_in_loop`: a grant in a reachable state -/
example : (acceptB (gCfg false none) StB.init [.runBegin, .grant 1]).isSome = true := by
  decide

/-- … and no grant once the scheduler has left its loop: under window 1 job `2` is still queued when the critical job
    `1` raises; the aborting reaction requests its cancellation and it is never granted a slot afterwards -/
example : (acceptB (setWindow (gCfg true none) 0 1) StB.init
      [.runBegin, .grant 1, .tick 3, .bodyEnd 1 false, .waitReturn 0, .react 0]).map
      (fun st => (st.a.ph 2, st.a.creq 2, st.pcB 0)) = some (.queued, true, .tidy .critical) ∧
    (acceptB (setWindow (gCfg true none) 0 1) StB.init
      [.runBegin, .grant 1, .tick 3, .bodyEnd 1 false, .waitReturn 0, .react 0, .grant 2]).isNone = true := by
  decide

/-- `noncritical_contained`: the hypotheses hold when the critical job `1` raises (and the conclusion names it) -/
example : (gCfg true none).wf = true ∧
    gCheck (gCfg true none) [.runBegin, .grant 1, .grant 2, .tick 3, .bodyEnd 1 false, .waitReturn 0]
      (.react 0) .critical = true := by
  decide

/-- … while the same failure of a non-critical job `1` does not make the run abort -/
example : (acceptB (gCfg false none) StB.init
      [.runBegin, .grant 1, .grant 2, .tick 3, .bodyEnd 1 false, .waitReturn 0, .react 0]).map
      (fun st => (st.pcB 0, st.a.creq 2)) = some (.loop, false) := by
  decide

/-- `cancel_scope`, second disjunct: the aborting reaction of scheduler `0` requests the cancellation of its job `2` -/
example : (acceptB (gCfg true none) StB.init
      [.runBegin, .grant 1, .grant 2, .tick 3, .bodyEnd 1 false, .waitReturn 0]).map (fun st => st.a.creq 2) = some false ∧
    (acceptB (gCfg true none) StB.init
      [.runBegin, .grant 1, .grant 2, .tick 3, .bodyEnd 1 false, .waitReturn 0, .react 0]).map
      (fun st => (st.a.creq 2, st.pcB 0)) = some (true, .tidy .critical) := by
  decide

/-- `cancel_scope`, first disjunct: `extCancel` requests the cancellation of the top-level run -/
example : (acceptB (gCfg false none) StB.init [.runBegin, .grant 1]).map (fun st => st.a.creq 0) = some false ∧
    (acceptB (gCfg false none) StB.init [.runBegin, .grant 1, .extCancel]).map (fun st => st.a.creq 0) = some true := by
  decide

/-- `window_scoped_tick`: a state where no job of scheduler `0` is queued (both running) and time passes -/
example : (acceptA (gCfg false none) StA.init [.runBegin, .grant 1, .grant 2]).map
      (fun st => (decide (st.ph 1 ≠ .queued), decide (st.ph 2 ≠ .queued),
        (stepA (setWindow (gCfg false none) 0 1) st (.tick 1)).isSome)) = some (true, true, true) := by
  decide

/-- `containment_list`: with `K = [1, 2]` both outcomes are switched, other events are untouched -/
example : flipEvs [1, 2] (.bodyEnd 1 true) = .bodyEnd 1 false ∧ flipEvs [1, 2] (.bodyEnd 2 false) = .bodyEnd 2 true ∧
    flipEvs [1, 2] (.grant 1) = .grant 1 :=
  ⟨rfl, rfl, rfl⟩

/-- … and the flipped history of the example is accepted, with job `2`'s result forgotten by `normL` -/
example : (acceptB (gCfg false none) StB.init
      ([EvB.runBegin, .grant 1, .grant 2, .tick 1, .bodyEnd 1 true, .bodyEnd 2 false].map (flipEvs [1, 2]))).map
      (fun st => (st.a.ph 1, st.a.ph 2, (normL [1, 2] st).a.ph 1)) =
    some (.done (.exc (.byJob 1)), .done .retOwn, .done .retOwn) := by
  decide

end AJ.Proofs.Gap2
