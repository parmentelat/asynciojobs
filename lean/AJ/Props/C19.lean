/-
  C19 — the construction API builds exactly the documented requirement edges
  Property theorems only (generated by tools/gen_props.py: statements copied verbatim from the
  proved lemmas of AJ/Proofs/C19.lean, each proved by the lemma of that name there).
-/
import AJ.Proofs.C19
namespace AJ
open AJ.Proofs.C19
open AJ.Proofs.Gap4

theorem C19_requires_add (h : Heap) (j : Nat) (args : List Arg) :
    (reqArgs j false h args).2 = none ∧
    (∀ x, x ∈ (reqArgs j false h args).1.req j ↔ (x ∈ h.req j ∨ (x ∈ flats h args ∧ x ≠ j))) ∧
    (∀ k, k ≠ j → (reqArgs j false h args).1.req k = h.req k) ∧
    (reqArgs j false h args).1.seqJobs = h.seqJobs ∧ (reqArgs j false h args).1.mem = h.mem ∧
    (reqArgs j false h args).1.seqSched = h.seqSched :=
  Proofs.C19.requires_add h j args

theorem C19_requires_add_nodup (h : Heap) (j : Nat) (args : List Arg) (hnd : (h.req j).Nodup) :
    ((reqArgs j false h args).1.req j).Nodup :=
  Proofs.C19.requires_add_nodup h j args hnd

theorem C19_requires_remove (h : Heap) (j : Nat) (args : List Arg) :
    match removeAll (h.req j) (flats h args) with
    | some l => reqArgs j true h args = (h.setReq j l, none) ∨
                (l = h.req j ∧ reqArgs j true h args = (h, none))
    | none => (reqArgs j true h args).2 = some Err.keyError :=
  Proofs.C19.requires_remove h j args

theorem C19_no_self (h : Heap) (op : Op) (hinv : ∀ j, j ∉ h.req j) :
    ∀ j, j ∉ (interp h op).1.req j :=
  Proofs.C19.no_self h op hinv

theorem C19_chain_links (h : Heap) (prev : Option Nat) (l : List Nat) :
    ∀ p ∈ pairs (prev.toList ++ l), p.1 ≠ p.2 → p.1 ∈ (chain h prev l).req p.2 :=
  Proofs.C19.chain_links h prev l

theorem C19_chain_only (h : Heap) (prev : Option Nat) (l : List Nat) (x y : Nat)
    (hy : y ∈ (chain h prev l).req x) :
    y ∈ h.req x ∨ ((y, x) ∈ pairs (prev.toList ++ l) ∧ y ≠ x) :=
  Proofs.C19.chain_only h prev l x y hy

theorem C19_newSeq_spec (h : Heap) (q : Nat) (items : List Arg) (r : Arg) (sch : Option Nat) :
    let h' := (interp h (.newSeq q items r sch)).1
    let js := flattenSeq h items
    (interp h (.newSeq q items r sch)).2 = none ∧
    h'.seqJobs q = js ∧
    (∀ p ∈ pairs js, p.1 ≠ p.2 → p.1 ∈ h'.req p.2) ∧
    (∀ j0, js.head? = some j0 → ∀ x ∈ flat (h.setSeqJobs q js) r, x ≠ j0 → x ∈ h'.req j0) ∧
    (∀ x y, y ∈ h'.req x → y ∈ h.req x ∨ ((y, x) ∈ pairs js ∧ y ≠ x) ∨
        (js.head? = some x ∧ y ∈ flat (h.setSeqJobs q js) r ∧ y ≠ x)) ∧
    (∀ x y, y ∈ h.req x → y ∈ h'.req x) ∧
    (js = [] → h'.seqPending q = flat (h.setSeqJobs q js) r) ∧
    (js ≠ [] → h'.seqPending q = []) ∧
    (∀ k, k ≠ q → h'.seqPending k = h.seqPending k) :=
  Proofs.C19.newSeq_spec h q items r sch

theorem C19_append_spec (h : Heap) (q : Nat) (items : List Arg) (hne : items ≠ []) :
    let h' := (interp h (.append q items)).1
    let new := flattenSeq h items
    (interp h (.append q items)).2 = none ∧
    h'.seqJobs q = h.seqJobs q ++ new ∧
    (∀ p ∈ pairs ((h.seqJobs q).getLast?.toList ++ new), p.1 ≠ p.2 → p.1 ∈ h'.req p.2) ∧
    (∀ j0, (h.seqJobs q ++ new).head? = some j0 → ∀ x ∈ h.seqPending q, x ≠ j0 → x ∈ h'.req j0) ∧
    (∀ x y, y ∈ h'.req x → y ∈ h.req x ∨
        ((y, x) ∈ pairs ((h.seqJobs q).getLast?.toList ++ new) ∧ y ≠ x) ∨
        ((h.seqJobs q ++ new).head? = some x ∧ y ∈ h.seqPending q ∧ y ≠ x)) ∧
    (∀ x y, y ∈ h.req x → y ∈ h'.req x) ∧
    (h.seqJobs q ++ new ≠ [] → h'.seqPending q = []) ∧
    (h.seqJobs q ++ new = [] → h'.seqPending q = h.seqPending q) ∧
    (∀ k, k ≠ q → h'.seqPending k = h.seqPending k) :=
  Proofs.C19.append_spec h q items hne

theorem C19_register_spec (h : Heap) (s : Nat) (js : List Nat) (hnd : (h.mem s).Nodup) :
    (∀ x, x ∈ (register h (some s) js).mem s ↔ (x ∈ h.mem s ∨ x ∈ js)) ∧
    ((register h (some s) js).mem s).Nodup ∧
    (∀ k, k ≠ s → (register h (some s) js).mem k = h.mem k) :=
  Proofs.C19.register_spec h s js hnd

theorem C19_pending_given (h : Heap) (q : Nat) (items : List Arg) (j0 : Nat) (rest : List Nat)
    (hq : h.seqJobs q = []) (hfl : flattenSeq h items = j0 :: rest) :
    (∀ x ∈ h.seqPending q, x ≠ j0 → x ∈ (interp h (.append q items)).1.req j0) ∧
    (interp h (.append q items)).1.seqPending q = [] :=
  Proofs.C19.pending_given h q items j0 rest hq hfl

theorem C19_pending_kept (h : Heap) (q : Nat) (args : List Arg) (hq : h.seqJobs q = []) :
    (interp h (.seqRequires q args)).2 = none ∧
    (interp h (.seqRequires q args)).1.req = h.req ∧
    (interp h (.seqRequires q args)).1.seqPending q = h.seqPending q ++ flats h args ∧
    (∀ k, k ≠ q → (interp h (.seqRequires q args)).1.seqPending k = h.seqPending k) ∧
    (interp h (.seqRequires q args)).1.seqJobs = h.seqJobs ∧
    (interp h (.seqRequires q args)).1.mem = h.mem ∧
    (interp h (.seqRequires q args)).1.seqSched = h.seqSched :=
  Proofs.C19.pending_kept h q args hq

theorem C19_pending_inv (h : Heap) (op : Op) (hinv : ∀ q, h.seqJobs q ≠ [] → h.seqPending q = []) :
    ∀ q, (interp h op).1.seqJobs q ≠ [] → (interp h op).1.seqPending q = [] :=
  Proofs.C19.pending_inv h op hinv

theorem C19_add_mem (h : Heap) (s : Nat) (x : Arg) :
    interp h (.add s x) = (register h (some s) (flattenSeq h [x]), none) :=
  Proofs.Gap4.add_mem h s x

theorem C19_update_mem (h : Heap) (s : Nat) (xs : List Arg) :
    interp h (.update s xs) = (register h (some s) (flattenSeq h xs), none) :=
  Proofs.Gap4.update_mem h s xs

theorem C19_newSeq_mem (h : Heap) (q s : Nat) (items : List Arg) (r : Arg) (hnd : (h.mem s).Nodup) :
    let h' := (interp h (.newSeq q items r (some s))).1
    (∀ y, y ∈ h'.mem s ↔ (y ∈ h.mem s ∨ y ∈ flattenSeq h items)) ∧ (h'.mem s).Nodup ∧
    (∀ k, k ≠ s → h'.mem k = h.mem k) ∧ h'.seqSched q = some s :=
  Proofs.Gap4.newSeq_mem h q s items r hnd

theorem C19_append_mem (h : Heap) (q : Nat) (items : List Arg) (hne : items ≠ []) :
    let h' := (interp h (.append q items)).1
    (∀ s, h.seqSched q = some s → (h.mem s).Nodup →
        (∀ y, y ∈ h'.mem s ↔ (y ∈ h.mem s ∨ y ∈ flattenSeq h items)) ∧ (h'.mem s).Nodup) ∧
    (∀ k, h.seqSched q ≠ some k → h'.mem k = h.mem k) :=
  Proofs.Gap4.append_mem h q items hne

theorem C19_newJob_spec (h : Heap) (j : Nat) (r : Arg) (sch : Option Nat) :
    let h' := (interp h (.newJob j r sch)).1
    (interp h (.newJob j r sch)).2 = none ∧
    (∀ x, x ∈ h'.req j ↔ (x ∈ flat h r ∧ x ≠ j)) ∧ (∀ k, k ≠ j → h'.req k = h.req k) ∧
    (∀ s, sch = some s → ∀ y, y ∈ h'.mem s ↔ (y ∈ h.mem s ∨ y = j)) :=
  Proofs.Gap4.newJob_spec h j r sch

theorem C19_seqRequires_first (h : Heap) (q j0 : Nat) (rest : List Nat) (args : List Arg)
    (hq : h.seqJobs q = j0 :: rest) :
    interp h (.seqRequires q args) = reqArgs j0 false h args :=
  Proofs.Gap4.seqRequires_first h q j0 rest args hq

end AJ
