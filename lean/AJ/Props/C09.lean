/-
  C09 — forever jobs are never waited for and never outlive the run
  Property theorems only (generated by tools/gen_props.py: statements copied verbatim from the
  proved lemmas of AJ/Proofs/ExitB.lean, AJ/Proofs/LatC.lean, AJ/Proofs/LatB.lean, AJ/Proofs/ScopeB.lean, AJ/Proofs/CoreA.lean, each proved by the lemma of that name there).
-/
import AJ.Proofs.ExitB
import AJ.Proofs.LatC
import AJ.Proofs.LatB
import AJ.Proofs.ScopeB
import AJ.Proofs.CoreA
namespace AJ
open AJ.Proofs.ExitB
open AJ.Proofs.LatC
open AJ.Proofs.Gap2
open AJ.Proofs.CoreA
open AJ.Run
open AJ.Full
open AJ.Proofs.CoreA
open AJ.Proofs.CoreB
open AJ.Proofs.LatC
open AJ.Proofs.LatB
open AJ.Proofs.BoundB

theorem C09_last_regular_ends (c : Cfg) (st st' : StB) (s : Nat) (D : List Nat)
    (h : stepB c st (.react s) = some st') (hrx : st.a.rx s = some D) (hcrit : critIn c st.a D = false)
    (hcnt : st.nbDone s + (D.filter fun d => !c.forever d).length = nbFinite c s) :
    st'.pcB s = .tidy .success :=
  Proofs.ExitB.last_regular_ends c st st' s D h hrx hcrit hcnt

theorem C09_exit_cancels_all (c : Cfg) (st st' : StB) (e : EvB) (s : Nat)
    (hB : InvB c st) (h : stepB c st e = some st') (hloop : st.pcB s = .loop) (hleft : st'.pcB s ≠ .loop) :
    (∃ x, st'.pcB s = .tidy x) ∧
    (∀ k ∈ c.children s, (st.a.ph k).live = true → st'.a.creq k = true) ∧
    (∀ k, st'.a.ph k = st.a.ph k) :=
  Proofs.ExitB.exit_cancels_all c st st' e s hB h hloop hleft

theorem C09_no_start_outside_loop (c : Cfg) (hwf : c.wf = true) (st st' : StB) (e : EvB) (s : Nat)
    (hA : InvA c st.a) (hB : InvB c st) (h : stepB c st e = some st')
    (hs : st.pcB s ≠ .loop) (hs2 : st.pcB s ≠ .notBegun) :
    ∀ k ∈ c.children s, st.a.ph k = .idle → st'.a.ph k = .idle :=
  Proofs.ExitB.no_start_outside_loop c hwf st st' e s hA hB h hs hs2

theorem C09_loop_left_for_good (c : Cfg) (st st' : StB) (e : EvB) (s : Nat) (hA : InvA c st.a)
    (hB : InvB c st) (h : stepB c st e = some st') (hs : st.pcB s ≠ .loop) (hs2 : st.pcB s ≠ .notBegun) :
    st'.pcB s ≠ .loop ∧ st'.pcB s ≠ .notBegun :=
  Proofs.ExitB.loop_left_for_good c st st' e s hA hB h hs hs2

theorem C09_exitInv_reach (c : Cfg) (hwf : c.wf = true) (evs : List EvB) (st : StB)
    (h : acceptB c StB.init evs = some st) :
    ExitInv c st :=
  Proofs.ExitB.exitInv_reach c hwf evs st h

theorem C09_exit_no_latency (c : Cfg) (hwf : c.wf = true) (evs : List EvB) (e : EvB) (s : Nat) (st0 st : StB) (x : Exit)
    (h0 : acceptB c StB.init evs = some st0) (h1 : stepB c st0 e = some st)
    (hloop : st0.pcB s = .loop) (hx : st.pcB s = .tidy x) :
    ExitCause c evs e s st0 x :=
  Proofs.LatC.exit_no_latency c hwf evs e s st0 st x h0 h1 hloop hx

theorem C09_exit_cancels_at_once (c : Cfg) (hwf : c.wf = true) (evs : List EvB) (e : EvB) (s : Nat) (st0 st : StB)
    (h0 : acceptB c StB.init evs = some st0) (h1 : stepB c st0 e = some st)
    (hloop : st0.pcB s = .loop) (hleft : st.pcB s ≠ .loop) :
    ∃ x, st.pcB s = .tidy x ∧ ExitCause c evs e s st0 x ∧
      (∀ k ∈ c.children s, (st0.a.ph k).live = true → st.a.creq k = true) ∧
      (∀ k, st.a.ph k = st0.a.ph k) :=
  Proofs.LatC.exit_cancels_at_once c hwf evs e s st0 st h0 h1 hloop hleft

theorem C09_regular_done_not_in_loop (c : Cfg) (hwf : c.wf = true) (evs : List EvB) (st : StB)
    (h : acceptB c StB.init evs = some st) (hq : quietB c st = true)
    (s : Nat) (hs : s < c.n) (hsch : c.isSched s = true) (hl : st.pcB s = .loop) (hpos : 0 < nbFinite c s) :
    ∃ k ∈ c.children s, c.forever k = false ∧ (st.a.ph k).isDone = false :=
  Proofs.Gap2.regular_done_not_in_loop c hwf evs st h hq s hs hsch hl hpos

theorem C09_forever_blind_A (c : Cfg) (f : Nat → Bool) (st : StA) (e : EvA) :
    stepA { c with forever := f } st e = stepA c st e :=
  Proofs.Gap2.forever_blind_A c f st e

theorem C09_creq_blocks_grant (c : Cfg) (st st' : StB) (j : Nat) (h : stepB c st (.grant j) = some st') :
    st.a.creq j = false :=
  Proofs.Gap2.creq_blocks_grant c st st' j h

theorem C09_grant_only_in_loop (c : Cfg) (hwf : c.wf = true) (evs : List EvB) (st st' : StB) (j : Nat) (hj : 0 < j)
    (h : acceptB c StB.init evs = some st) (hg : stepB c st (.grant j) = some st') :
    st.pcB (c.parent j) = .loop :=
  Proofs.Gap2.grant_only_in_loop c hwf evs st st' j hj h hg

theorem C09_eager_at_quiescence (c : Cfg) (hwf : c.wf = true) (evs : List EvA) (st st' : StA) (d : Nat)
    (h : acceptA c StA.init evs = some st) (htick : stepA c st (.tick d) = some st')
    (s : Nat) (hs : s < c.n) (hsch : c.isSched s = true) (hloop : st.pc s = .loop) :
    ∀ k ∈ c.children s,
      (st.ph k = .idle → ∃ r ∈ c.req k, (st.ph r).isDone = false) ∧
      (st.ph k = .queued → st.creq k = true ∨ (c.window s ≠ 0 ∧ runningCount c st s = c.window s)) :=
  Proofs.CoreA.eager_at_quiescence c hwf evs st st' d h htick s hs hsch hloop

end AJ
