/-
  C03 — progress: a run that can finish does finish; failures and windows never wedge it
  Property theorems only (generated by tools/gen_props.py: statements copied verbatim from the
  proved lemmas of AJ/Proofs/FinB.lean, AJ/Proofs/BoundB.lean, AJ/Proofs/ProgB.lean, AJ/Proofs/ExitB.lean, AJ/Proofs/ShutB.lean, AJ/Proofs/LiveB.lean, AJ/Proofs/AdmB.lean, each proved by the lemma of that name there).
-/
import AJ.Proofs.FinB
import AJ.Proofs.BoundB
import AJ.Proofs.ProgB
import AJ.Proofs.ExitB
import AJ.Proofs.ShutB
import AJ.Proofs.LiveB
import AJ.Proofs.AdmB
namespace AJ
open AJ.Proofs.FinB
open AJ.Proofs.BoundB
open AJ.Proofs.ProgB
open AJ.Proofs.ExitB
open AJ.Proofs.ShutB
open AJ.Proofs.LiveB
open AJ.Proofs.AdmB
open AJ.Proofs.Gap1
open AJ.Run
open AJ.Full
open AJ.Proofs.CoreA
open AJ.Proofs.CoreB
open AJ.Proofs.ProgB
open AJ.Proofs.BoundB
open AJ.Proofs.FinB
open AJ.Proofs.LiveB
open AJ.Proofs.AdmB

theorem C03_can_always_finish (c : Cfg) (hwf : c.wf = true) (evs : List EvB) (st : StB)
    (h : acceptB c StB.init evs = some st) (hb : st.pcB 0 ≠ .notBegun) :
    ∃ evs' st', acceptB c st evs' = some st' ∧ st'.pcB 0 = .over :=
  Proofs.FinB.can_always_finish c hwf evs st h hb

theorem C03_bounded_work (c : Cfg) (hwf : c.wf = true) (evs : List EvB) (st : StB)
    (h : acceptB c StB.init evs = some st) :
    work evs ≤ 16 * c.n + 16 :=
  Proofs.BoundB.bounded_work c hwf evs st h

theorem C03_urgent_enabled (c : Cfg) (hwf : c.wf = true) (evs : List EvB) (st : StB)
    (h : acceptB c StB.init evs = some st) (hq : quietB c st = false) :
    ∃ e st', (∀ d, e ≠ .tick d) ∧ stepB c st e = some st' :=
  Proofs.ProgB.urgent_enabled c hwf evs st h hq

theorem C03_deadline_enabled (c : Cfg) (hwf : c.wf = true) (evs : List EvB) (st : StB)
    (h : acceptB c StB.init evs = some st) (hq : quietB c st = true)
    (hno : stepB c st (.tick 1) = none) :
    ∃ s st', stepB c st (.timeoutFire s) = some st' ∨ stepB c st (.sdTimeoutFire s) = some st' :=
  Proofs.ProgB.deadline_enabled c hwf evs st h hq hno

theorem C03_never_wedged (c : Cfg) (hwf : c.wf = true) (evs : List EvB) (st : StB)
    (h : acceptB c StB.init evs = some st) (hb : st.pcB 0 ≠ .notBegun) (ho : st.pcB 0 ≠ .over)
    (hq : quietB c st = true) :
    InFlight c st :=
  Proofs.ProgB.never_wedged c hwf evs st h hb ho hq

theorem C03_timeout_bounds (c : Cfg) (hwf : c.wf = true) (evs : List EvB) (st : StB)
    (h : acceptB c StB.init evs = some st) (s T : Nat) (hloop : st.pcB s = .loop) (hT : c.timeout s = some T) :
    st.deadline s = some (st.tbegin s + T) ∧ st.a.now ≤ st.tbegin s + T :=
  Proofs.ExitB.timeout_bounds c hwf evs st h s T hloop hT

theorem C03_shutdown_bounded (c : Cfg) (hwf : c.wf = true) (evs : List EvB) (st : StB)
    (h : acceptB c StB.init evs = some st) (s T : Nat) (hw : (st.bc s).isWait = true)
    (hT : c.sdTimeout s = some T) :
    st.tsd s ≤ st.a.now ∧ st.a.now ≤ st.tsd s + T :=
  Proofs.ShutB.shutdown_bounded c hwf evs st h s T hw hT

theorem C03_eventually_only_ticks {c : Cfg} (hwf : c.wf = true) (r : InfRun c) :
    ∃ N, ∀ i, N ≤ i → isTick (r.ev i) = true :=
  Proofs.LiveB.eventually_only_ticks hwf r

theorem C03_fair_run_ends {c : Cfg} (hwf : c.wf = true) (r : InfRun c)
    (hbegun : ∃ i, (r.st i).pcB 0 ≠ .notBegun) (hb : FairBodies r) (hh : FairHandlers r) :
    ∃ i, (r.st i).pcB 0 = .over :=
  Proofs.LiveB.fair_run_ends hwf r hbegun hb hh

theorem C03_fair_run_ends_for_good {c : Cfg} (hwf : c.wf = true) (r : InfRun c)
    (hbegun : ∃ i, (r.st i).pcB 0 ≠ .notBegun) (hb : FairBodies r) (hh : FairHandlers r) :
    ∃ N, ∀ i, N ≤ i → (r.st i).pcB 0 = .over ∧ isTick (r.ev i) = true :=
  Proofs.LiveB.fair_run_ends_for_good hwf r hbegun hb hh

theorem C03_fair_run_ends_or_blocked {c : Cfg} (hwf : c.wf = true) (fin : Nat → Bool) (r : InfRun c)
    (hbegun : ∃ i, (r.st i).pcB 0 ≠ .notBegun) (hb : WeakFairBodies fin r) (hh : FairHandlers r) :
    (∃ i, (r.st i).pcB 0 = .over) ∨
    (∃ N j, j < c.n ∧ c.isSched j = false ∧ fin j = false ∧
       ∀ i, N ≤ i → (r.st i).a.ph j = .running ∧ (r.st i).a.creq j = false) :=
  Proofs.LiveB.fair_run_ends_or_blocked hwf fin r hbegun hb hh

theorem C03_admissible_run_ends {c : Cfg} (hwf : c.wf = true) (fin : Nat → Bool) (hadm : Admissible c fin) (r : InfRun c)
    (hbegun : ∃ i, (r.st i).pcB 0 ≠ .notBegun) (hb : WeakFairBodies fin r) (hh : FairHandlers r)
    (ht : TimeDiverges r) :
    ∃ i, (r.st i).pcB 0 = .over :=
  Proofs.AdmB.admissible_run_ends hwf fin hadm r hbegun hb hh ht

theorem C03_time_diverges {c : Cfg} (hwf : c.wf = true) (r : InfRun c) :
    TimeDiverges r :=
  Proofs.AdmB.time_diverges hwf r

theorem C03_timeout_run_ends {c : Cfg} (hwf : c.wf = true) (r : InfRun c) (T : Nat) (hT : c.timeout 0 = some T)
    (hbegun : ∃ i, (r.st i).pcB 0 ≠ .notBegun)
    (hb : WeakFairBodies (fun _ => false) r) (hh : FairHandlers r) :
    ∃ i, (r.st i).pcB 0 = .over :=
  Proofs.Gap1.timeout_run_ends hwf r T hT hbegun hb hh

theorem C03_timeout_loop_left {c : Cfg} (hwf : c.wf = true) (r : InfRun c) (s T : Nat) (hT : c.timeout s = some T)
    (i : Nat) (hl : (r.st i).pcB s = .loop) :
    ∃ k, i ≤ k ∧ (r.st k).pcB s ≠ .loop :=
  Proofs.Gap1.timeout_loop_left hwf r s T hT i hl

end AJ
