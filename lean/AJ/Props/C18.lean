/-
  C18 — graph surgery keeps exactly the documented jobs and preserves precedence
  Property theorems only (generated by tools/gen_props.py: statements copied verbatim from the
  proved lemmas of AJ/Proofs/C18.lean, each proved by the lemma of that name there).
-/
import AJ.Proofs.C18
namespace AJ
open AJ.Proofs.C18
open AJ.Proofs.Gap4

theorem C18_bypass_nonmember (t : T) (s j : Nat) (h : j ∉ t.mem s) :
    bypass t s j = .error .valueError :=
  Proofs.C18.bypass_nonmember t s j h

theorem C18_bypass_mem (t t' : T) (s j : Nat) (h : bypass t s j = .ok t') :
    t'.mem s = (t.mem s).filter (· ≠ j) ∧ ∀ k, k ≠ s → t'.mem k = t.mem k :=
  Proofs.C18.bypass_mem t t' s j h

theorem C18_bypass_reach (t t' : T) (s j : Nat) (hcl : Closed t s) (hac : Acyclic t s)
    (h : bypass t s j = .ok t') (a b : Nat) (ha : a ≠ j) (hb : b ≠ j) :
    Reach t' s a b ↔ Reach t s a b :=
  Proofs.C18.bypass_reach t t' s j hcl hac h a b ha hb

theorem C18_bypass_closed (t t' : T) (s j : Nat) (hcl : Closed t s) (h : bypass t s j = .ok t') :
    Closed t' s :=
  Proofs.C18.bypass_closed t t' s j hcl h

theorem C18_bypass_acyclic (t t' : T) (s j : Nat) (hcl : Closed t s) (hac : Acyclic t s)
    (h : bypass t s j = .ok t') :
    Acyclic t' s :=
  Proofs.C18.bypass_acyclic t t' s j hcl hac h

theorem C18_keepOnly_spec (t : T) (fuel s : Nat) (R : List Nat) (hflat : FlatAt t s) :
    (keepOnly t (fuel + 1) s R).mem s = (t.mem s).filter (· ∈ R) ∧
    (∀ x ∈ (keepOnly t (fuel + 1) s R).mem s,
        (keepOnly t (fuel + 1) s R).req x = (t.req x).filter (· ∈ (keepOnly t (fuel + 1) s R).mem s)) ∧
    (∀ x, x ∉ (keepOnly t (fuel + 1) s R).mem s → (keepOnly t (fuel + 1) s R).req x = t.req x) :=
  Proofs.C18.keepOnly_spec t fuel s R hflat

theorem C18_between_mem (t : T) (fuel s : Nat) (starts ends : List Nat) (ks ke : Bool) (x : Nat)
    (hflat : FlatAt t s) (hst : ∀ a ∈ starts, a ∈ t.mem s) (hen : ∀ a ∈ ends, a ∈ t.mem s) :
    x ∈ (keepOnlyBetween t (fuel + 1) s starts ends ks ke).mem s ↔
      (((starts = [] ∧ x ∈ t.mem s) ∨ ∃ a ∈ starts, ReachL t s false a x) ∧
       ((ends = [] ∧ x ∈ t.mem s) ∨ ∃ e ∈ ends, ReachL t s true e x)) ∨
      (ks = true ∧ x ∈ starts) ∨ (ke = true ∧ x ∈ ends) :=
  Proofs.C18.between_mem t fuel s starts ends ks ke x hflat hst hen

theorem C18_between_req (t : T) (fuel s : Nat) (starts ends : List Nat) (ks ke : Bool)
    (hflat : FlatAt t s) (hst : ∀ a ∈ starts, a ∈ t.mem s) (hen : ∀ a ∈ ends, a ∈ t.mem s) :
    let t' := keepOnlyBetween t (fuel + 1) s starts ends ks ke
    ∀ x ∈ t'.mem s, t'.req x = (t.req x).filter (· ∈ t'.mem s) :=
  Proofs.C18.between_req t fuel s starts ends ks ke hflat hst hen

theorem C18_restrict_closed_acyclic (t t' : T) (s : Nat)
    (hsub : ∀ x ∈ t'.mem s, x ∈ t.mem s)
    (hreq : ∀ x ∈ t'.mem s, t'.req x = (t.req x).filter (· ∈ t'.mem s))
    (hac : Acyclic t s) :
    Closed t' s ∧ Acyclic t' s :=
  Proofs.C18.restrict_closed_acyclic t t' s hsub hreq hac

theorem C18_keepOnly_closed_acyclic (t : T) (fuel s : Nat) (R : List Nat) (hflat : FlatAt t s) (hac : Acyclic t s) :
    Closed (keepOnly t (fuel + 1) s R) s ∧ Acyclic (keepOnly t (fuel + 1) s R) s :=
  Proofs.Gap4.keepOnly_closed_acyclic t fuel s R hflat hac

theorem C18_between_closed_acyclic (t : T) (fuel s : Nat) (starts ends : List Nat) (ks ke : Bool)
    (hflat : FlatAt t s) (hst : ∀ a ∈ starts, a ∈ t.mem s) (hen : ∀ a ∈ ends, a ∈ t.mem s) (hac : Acyclic t s) :
    Closed (keepOnlyBetween t (fuel + 1) s starts ends ks ke) s ∧
    Acyclic (keepOnlyBetween t (fuel + 1) s starts ends ks ke) s :=
  Proofs.Gap4.between_closed_acyclic t fuel s starts ends ks ke hflat hst hen hac

theorem C18_ops_closed_acyclic (t t' : T) (fuel s : Nat) (ops : List SOp) (hflat : FlatAt t s) (hcl : Closed t s) (hac : Acyclic t s)
    (h : ops.foldlM (fun a o => applyOp a fuel s o) t = .ok t') :
    Closed t' s ∧ Acyclic t' s ∧ ∀ x ∈ t'.mem s, x ∈ t.mem s :=
  Proofs.Gap4.ops_closed_acyclic t t' fuel s ops hflat hcl hac h

end AJ
