/-
  C16 — sanitize() closes the requirement relation minimally and reports truthfully
  Property theorems only (generated by tools/gen_props.py: statements copied verbatim from the
  proved lemmas of AJ/Proofs/C16.lean, each proved by the lemma of that name there).
-/
import AJ.Proofs.C16
namespace AJ
open AJ.Proofs.C16

theorem C16_sanitize_frame (t : T) (fuel s : Nat) :
    (sanitize t fuel s).1.mem = t.mem ∧ (sanitize t fuel s).1.isSched = t.isSched ∧
    (sanitize t fuel s).1.forever = t.forever ∧ (sanitize t fuel s).1.critical = t.critical ∧
    (sanitize t fuel s).1.n = t.n :=
  Proofs.C16.sanitize_frame t fuel s

theorem C16_sanitize_req (t : T) (fuel s : Nat) (hs : t.isSched s = true) (hlt : s < t.n)
    (hfuel : t.n - s ≤ fuel) (htree : TreeAt t s) :
    (∀ s', (s' = s ∨ Desc t s s') → t.isSched s' = true → ∀ x ∈ t.mem s',
        (sanitize t fuel s).1.req x = (t.req x).filter (· ∈ t.mem s')) ∧
    (∀ x, (∀ s', (s' = s ∨ Desc t s s') → t.isSched s' = true → x ∉ t.mem s') →
        (sanitize t fuel s).1.req x = t.req x) :=
  Proofs.C16.sanitize_req t fuel s hs hlt hfuel htree

theorem C16_sanitize_closed (t : T) (fuel s : Nat) (hs : t.isSched s = true) (hlt : s < t.n)
    (hfuel : t.n - s ≤ fuel) (htree : TreeAt t s) :
    ∀ s', (s' = s ∨ Desc t s s') → t.isSched s' = true → Closed (sanitize t fuel s).1 s' :=
  Proofs.C16.sanitize_closed t fuel s hs hlt hfuel htree

theorem C16_sanitize_flag (t : T) (fuel s : Nat) (hs : t.isSched s = true) (hlt : s < t.n)
    (hfuel : t.n - s ≤ fuel) (htree : TreeAt t s) :
    (sanitize t fuel s).2 = true ↔ ∀ x, (sanitize t fuel s).1.req x = t.req x :=
  Proofs.C16.sanitize_flag t fuel s hs hlt hfuel htree

theorem C16_sanitize_idempotent (t : T) (fuel s : Nat) (hs : t.isSched s = true) (hlt : s < t.n)
    (hfuel : t.n - s ≤ fuel) (htree : TreeAt t s) :
    (sanitize (sanitize t fuel s).1 fuel s).2 = true ∧
    (sanitize (sanitize t fuel s).1 fuel s).1.req = (sanitize t fuel s).1.req :=
  Proofs.C16.sanitize_idempotent t fuel s hs hlt hfuel htree

end AJ
