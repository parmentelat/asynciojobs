/-
  C17 — neighbour, reachability and traversal queries agree with the requirements
  Property theorems only (generated by tools/gen_props.py: statements copied verbatim from the
  proved lemmas of AJ/Proofs/C17.lean, each proved by the lemma of that name there).
-/
import AJ.Proofs.C17
namespace AJ
open AJ.Proofs.C17

theorem C17_pred_iff (t : T) (s : Nat) (starts : List Nat) (x : Nat) :
    x ∈ predecessors t s starts ↔ ∃ a ∈ starts, x ∈ t.req a ∧ x ∈ t.mem s :=
  Proofs.C17.pred_iff t s starts x

theorem C17_succ_iff (t : T) (s : Nat) (starts : List Nat) (x : Nat) :
    x ∈ successors t s starts ↔ ∃ a ∈ starts, a ∈ t.req x ∧ x ∈ t.mem s :=
  Proofs.C17.succ_iff t s starts x

theorem C17_neigh_nodup (t : T) (s : Nat) (up : Bool) (starts : List Nat) :
    (neigh t s up starts).Nodup :=
  Proofs.C17.neigh_nodup t s up starts

theorem C17_closure_iff (t : T) (s : Nat) (up : Bool) (starts : List Nat) (x : Nat) :
    x ∈ closure t s up starts ↔ ∃ a ∈ starts, ReachL t s up a x :=
  Proofs.C17.closure_iff t s up starts x

theorem C17_closure_nodup (t : T) (s : Nat) (up : Bool) (starts : List Nat) :
    (closure t s up starts).Nodup :=
  Proofs.C17.closure_nodup t s up starts

theorem C17_entry_iff (t : T) (s x : Nat) :
    x ∈ entryJobs t s ↔ x ∈ t.mem s ∧ t.req x = [] :=
  Proofs.C17.entry_iff t s x

theorem C17_exit_iff (t : T) (s x : Nat) (discard : Bool) :
    x ∈ exitJobs t s discard ↔
      x ∈ t.mem s ∧ ¬ (discard = true ∧ t.forever x = true) ∧ ∀ y ∈ t.mem s, x ∉ t.req y :=
  Proofs.C17.exit_iff t s x discard

theorem C17_iterate_mem (t : T) (fuel s : Nat) (scan : Bool) (x : Nat)
    (hs : t.isSched s = true) (hlt : s < t.n) (hfuel : t.n - s ≤ fuel)
    (hwf : ∀ s', (s' = s ∨ Desc t s s') → ∀ k ∈ t.mem s', s' < k ∧ k < t.n) :
    x ∈ iterateJobs t scan fuel s ↔
      ((Desc t s x ∧ (t.isSched x = false ∨ scan = true)) ∨ (x = s ∧ scan = true)) :=
  Proofs.C17.iterate_mem t fuel s scan x hs hlt hfuel hwf

theorem C17_iterate_nodup (t : T) (fuel s : Nat) (scan : Bool)
    (hs : t.isSched s = true) (hlt : s < t.n) (hfuel : t.n - s ≤ fuel)
    (hwf : ∀ s', (s' = s ∨ Desc t s s') → ∀ k ∈ t.mem s', s' < k ∧ k < t.n)
    (hnd : ∀ s', (s' = s ∨ Desc t s s') → (t.mem s').Nodup)
    (hatomic : ∀ k, t.isSched k = false → t.mem k = [])
    (huniq : ∀ s1 s2 k, (s1 = s ∨ Desc t s s1) → (s2 = s ∨ Desc t s s2) → k ∈ t.mem s1 → k ∈ t.mem s2 → s1 = s2) :
    (iterateJobs t scan fuel s).Nodup :=
  Proofs.C17.iterate_nodup t fuel s scan hs hlt hfuel hwf hnd hatomic huniq

end AJ
