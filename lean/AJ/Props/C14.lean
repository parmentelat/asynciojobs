/-
  C14 — job results and life-cycle predicates tell the truth
  Property theorems only (generated by tools/gen_props.py: statements copied verbatim from the
  proved lemmas of AJ/Proofs/HistA.lean, AJ/Proofs/CoreA.lean, AJ/Proofs/ResA.lean, AJ/Proofs/StatsA.lean, each proved by the lemma of that name there).
-/
import AJ.Proofs.HistA
import AJ.Proofs.CoreA
import AJ.Proofs.ResA
import AJ.Proofs.StatsA
import AJ.Model.Full
namespace AJ
open AJ.Proofs.HistA
open AJ.Proofs.CoreA
open AJ.Proofs.ResA
open AJ.Proofs.Gap3
open AJ.Proofs.StatsA
open AJ.Run
open AJ.Proofs.CoreA
open AJ.Full

theorem C14_done_iff_finished (c : Cfg) (hwf : c.wf = true) (evs : List EvA) (st : StA)
    (h : acceptA c StA.init evs = some st) (j : Nat) :
    isDone st j = true ↔ finishedIn c evs j = true :=
  Proofs.HistA.done_iff_finished c hwf evs st h j

theorem C14_running_iff_begun (c : Cfg) (hwf : c.wf = true) (evs : List EvA) (st : StA)
    (h : acceptA c StA.init evs = some st) (j : Nat) :
    isRunning st j = true ↔ begunIn evs j = true :=
  Proofs.HistA.running_iff_begun c hwf evs st h j

theorem C14_predicates_chain (c : Cfg) (hwf : c.wf = true) (evs : List EvA) (st : StA)
    (h : acceptA c StA.init evs = some st) (j : Nat) :
    (isDone st j = true → isRunning st j = true) ∧
    (isRunning st j = true → isScheduled st j = true) ∧
    (isIdle st j = !isScheduled st j) ∧
    (st.ph j = .queued → isScheduled st j = true ∧ isRunning st j = false) ∧
    ((st.ph j = .cancelled ∨ st.ph j = .idle) → isDone st j = false) :=
  Proofs.CoreA.predicates_chain c hwf evs st h j

theorem C14_step_monotone (c : Cfg) (st st' : StA) (e : EvA) (h : stepA c st e = some st') (j : Nat) :
    (∀ r, st.ph j = .done r → st'.ph j = .done r) ∧
    (isScheduled st j = true → isScheduled st' j = true) ∧
    (isRunning st j = true → isRunning st' j = true) ∧
    (isDone st j = true → isDone st' j = true) :=
  Proofs.CoreA.step_monotone c st st' e h j

theorem C14_result_own_iff (c : Cfg) (evs : List EvA) (st : StA) (h : acceptA c StA.init evs = some st) (j : Nat)
    (hatom : c.isSched j = false) :
    st.ph j = .done .retOwn ↔ EvA.bodyEnd j true ∈ evs :=
  Proofs.ResA.result_own_iff c evs st h j hatom

theorem C14_exception_own_iff (c : Cfg) (evs : List EvA) (st : StA) (h : acceptA c StA.init evs = some st) (j : Nat) :
    st.ph j = .done (.exc (.byJob j)) ∧ c.isSched j = false ↔ EvA.bodyEnd j false ∈ evs :=
  Proofs.ResA.exception_own_iff c evs st h j

theorem C14_no_result_unless_done (c : Cfg) (evs : List EvA) (st : StA) (h : acceptA c StA.init evs = some st) (j : Nat)
    (hnf : finishedIn c evs j = false) :
    ∀ r, st.ph j ≠ .done r :=
  Proofs.ResA.no_result_unless_done c evs st h j hnf

theorem C14_sched_result_iff (c : Cfg) (evs : List EvA) (st : StA) (h : acceptA c StA.init evs = some st) (s : Nat) (r : Res)
    (hs : c.isSched s = true) (hne : c.children s ≠ []) :
    st.ph s = .done r ↔ EvA.finish s (some r) ∈ evs :=
  Proofs.ResA.sched_result_iff c evs st h s r hs hne

theorem C14_done_iff_finished_lax (c : Cfg) (evs : List EvA) (st : StA)
    (h : acceptAL c StA.init evs = some st) (j : Nat) :
    isDone st j = true ↔ finishedIn c evs j = true :=
  Proofs.LaxA.done_iff_finished c evs st h j

theorem C14_running_iff_begun_lax (c : Cfg) (evs : List EvA) (st : StA)
    (h : acceptAL c StA.init evs = some st) (j : Nat) :
    isRunning st j = true ↔ begunIn evs j = true :=
  Proofs.LaxA.running_iff_begun c evs st h j

theorem C14_predicates_chain_lax (c : Cfg) (hwf : c.wf = true) (evs : List EvA) (st : StA)
    (h : acceptAL c StA.init evs = some st) (j : Nat) :
    (isDone st j = true → isRunning st j = true) ∧
    (isRunning st j = true → isScheduled st j = true) ∧
    (isIdle st j = !isScheduled st j) ∧
    (st.ph j = .queued → isScheduled st j = true ∧ isRunning st j = false) ∧
    ((st.ph j = .cancelled ∨ st.ph j = .idle) → isDone st j = false) :=
  Proofs.LaxA.predicates_chain c hwf evs st h j

theorem C14_result_own_iff_lax (c : Cfg) (evs : List EvA) (st : StA) (h : acceptAL c StA.init evs = some st) (j : Nat)
    (hatom : c.isSched j = false) :
    st.ph j = .done .retOwn ↔ EvA.bodyEnd j true ∈ evs :=
  Proofs.Gap3.result_own_iff_lax c evs st h j hatom

theorem C14_exception_own_iff_lax (c : Cfg) (evs : List EvA) (st : StA) (h : acceptAL c StA.init evs = some st) (j : Nat) :
    st.ph j = .done (.exc (.byJob j)) ∧ c.isSched j = false ↔ EvA.bodyEnd j false ∈ evs :=
  Proofs.Gap3.exception_own_iff_lax c evs st h j

theorem C14_no_result_unless_done_lax (c : Cfg) (evs : List EvA) (st : StA) (h : acceptAL c StA.init evs = some st) (j : Nat)
    (hnf : finishedIn c evs j = false) :
    ∀ r, st.ph j ≠ .done r :=
  Proofs.Gap3.no_result_unless_done_lax c evs st h j hnf

theorem C14_sched_result_iff_lax (c : Cfg) (evs : List EvA) (st : StA) (h : acceptAL c StA.init evs = some st) (s : Nat)
    (r : Res) (hs : c.isSched s = true) (hne : c.children s ≠ []) :
    st.ph s = .done r ↔ EvA.finish s (some r) ∈ evs :=
  Proofs.Gap3.sched_result_iff_lax c evs st h s r hs hne

theorem C14_cancelled_final (c : Cfg) (st st' : StA) (e : EvA) (h : stepA c st e = some st') (j : Nat)
    (hc : st.ph j = .cancelled) :
    st'.ph j = .cancelled :=
  Proofs.Gap3.cancelled_final c st st' e h j hc

theorem C14_never_done_after_cancel (c : Cfg) (evs more : List EvA) (st st' : StA) (j : Nat)
    (h : acceptAL c StA.init evs = some st) (hc : st.ph j = .cancelled)
    (h' : acceptAL c st more = some st') :
    isDone st' j = false :=
  Proofs.Gap3.never_done_after_cancel c evs more st st' j h hc h'

theorem C14_cancelled_stays (c : Cfg) (more : List EvA) (st st' : StA) (j : Nat) (hc : st.ph j = .cancelled)
    (h' : acceptAL c st more = some st') :
    st'.ph j = .cancelled :=
  Proofs.Gap3.cancelled_stays c more st st' j hc h'

theorem C14_stats_add_up (c : Cfg) (hwf : c.wf = true) (evs : List EvA) (st : StA)
    (h : acceptA c StA.init evs = some st) (s : Nat) :
    (statsOf c st s).1 + (statsOf c st s).2.1 + (statsOf c st s).2.2.1 = (statsOf c st s).2.2.2 :=
  Proofs.StatsA.stats_add_up c hwf evs st h s

theorem C14_stats_add_up_lax (c : Cfg) (hwf : c.wf = true) (evs : List EvA) (st : StA)
    (h : acceptAL c StA.init evs = some st) (s : Nat) :
    (statsOf c st s).1 + (statsOf c st s).2.1 + (statsOf c st s).2.2.1 = (statsOf c st s).2.2.2 :=
  Proofs.StatsA.stats_add_up_lax c hwf evs st h s

theorem C14_stats_total (c : Cfg) (st : StA) (s : Nat) :
    (statsOf c st s).2.2.2 = (c.children s).length :=
  Proofs.StatsA.stats_total c st s

theorem C14_stats_init (c : Cfg) (s : Nat) :
    statsOf c StA.init s = (0, 0, (c.children s).length, (c.children s).length) :=
  Proofs.StatsA.stats_init c s

theorem C14_stats_monotone (c : Cfg) (st st' : StA) (e : EvA) (h : stepA c st e = some st') (s : Nat) :
    (statsOf c st s).1 ≤ (statsOf c st' s).1 ∧ (statsOf c st' s).2.2.1 ≤ (statsOf c st s).2.2.1 :=
  Proofs.StatsA.stats_monotone c st st' e h s

end AJ
