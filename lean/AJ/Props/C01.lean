/-
  C01 — a job never starts before every one of its requirements has finished
  Property theorems only (generated by tools/gen_props.py: statements copied verbatim from the
  proved lemmas of AJ/Proofs/HistA.lean, AJ/Proofs/LaxA.lean, AJ/Proofs/CoreA.lean, AJ/Proofs/CoreB.lean, AJ/Proofs/ShutB.lean, each proved by the lemma of that name there).
-/
import AJ.Proofs.HistA
import AJ.Proofs.LaxA
import AJ.Proofs.CoreA
import AJ.Proofs.CoreB
import AJ.Proofs.ShutB
namespace AJ
open AJ.Proofs.HistA
open AJ.Proofs.Gap1
open AJ.Proofs.ShutB
open AJ.Run
open AJ.Proofs.CoreA
open AJ.Proofs.CoreB
open AJ.Full

theorem C01_requirements_first (c : Cfg) (hwf : c.wf = true) (evs : List EvA) (j : Nat) (st : StA)
    (h : acceptA c StA.init (evs ++ [.grant j]) = some st) :
    ∀ r ∈ c.req j, finishedIn c evs r = true :=
  Proofs.HistA.requirements_first c hwf evs j st h

theorem C01_parent_first (c : Cfg) (hwf : c.wf = true) (evs : List EvA) (j : Nat) (st : StA)
    (h : acceptA c StA.init (evs ++ [.grant j]) = some st) :
    begunIn evs (c.parent j) = true :=
  Proofs.HistA.parent_first c hwf evs j st h

theorem C01_stepA_sub_stepAL (c : Cfg) (st st' : StA) (e : EvA) (h : stepA c st e = some st') :
    stepAL c st e = some st' :=
  Proofs.LaxA.stepA_sub_stepAL c st st' e h

theorem C01_acceptA_sub_acceptAL (c : Cfg) (evs : List EvA) (st0 st : StA) (h : acceptA c st0 evs = some st) :
    acceptAL c st0 evs = some st :=
  Proofs.LaxA.acceptA_sub_acceptAL c evs st0 st h

theorem C01_acceptAL_noWindow (c : Cfg) (evs : List EvA) (st0 st : StA) (h : acceptAL c st0 evs = some st) :
    acceptAL c.noWindow st0 evs = some st :=
  Proofs.LaxA.acceptAL_noWindow c evs st0 st h

theorem C01_requirements_first_lax (c : Cfg) (evs : List EvA) (j : Nat) (st : StA)
    (h : acceptAL c StA.init (evs ++ [.grant j]) = some st) :
    ∀ r ∈ c.req j, finishedIn c evs r = true :=
  Proofs.LaxA.requirements_first c evs j st h

theorem C01_parent_first_lax (c : Cfg) (evs : List EvA) (j : Nat) (st : StA)
    (h : acceptAL c StA.init (evs ++ [.grant j]) = some st) :
    begunIn evs (c.parent j) = true :=
  Proofs.LaxA.parent_first c evs j st h

theorem C01_ancestors_requirements_first (c : Cfg) (hwf : c.wf = true) (evs : List EvA) (j : Nat) (st : StA)
    (h : acceptAL c StA.init (evs ++ [.grant j]) = some st) :
    ∀ a, Anc c a j → a ≠ 0 → ∀ r ∈ c.req a, finishedIn c evs r = true :=
  Proofs.Gap1.ancestors_requirements_first c hwf evs j st h

theorem C01_invA_reach' (c : Cfg) (hwf : c.wf = true) (evs : List EvB) (st : StB)
    (h : acceptB c StB.init evs = some st) :
    InvA c st.a :=
  Proofs.Gap1.invA_reach' c hwf evs st h

theorem C01_over_subtree_quiet (c : Cfg) (hwf : c.wf = true) (evs : List EvB) (st : StB)
    (h : acceptB c StB.init evs = some st) (s : Nat) (hover : st.pcB s = .over) :
    ∀ d, DescOf c s d →
      (st.a.ph d).live = false ∧ st.hph d ≠ .hactive ∧
      (c.isSched d = true →
        (st.pcB d = .notBegun ∨ st.pcB d = .over) ∧ (st.bc d).isWait = false ∧ (st.bc d).isTidy = false) :=
  Proofs.ShutB.over_subtree_quiet c hwf evs st h s hover

end AJ
