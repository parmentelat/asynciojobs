/-
  C05 — critical failure aborts at once: nothing new starts, running jobs are cancelled
  Property theorems only (generated by tools/gen_props.py: statements copied verbatim from the
  proved lemmas of AJ/Proofs/ExitB.lean, AJ/Proofs/CoreA.lean, AJ/Proofs/ShutB.lean, AJ/Proofs/LatC.lean, AJ/Proofs/LatB.lean, AJ/Proofs/CoreB.lean, each proved by the lemma of that name there).
-/
import AJ.Proofs.ExitB
import AJ.Proofs.CoreA
import AJ.Proofs.ShutB
import AJ.Proofs.LatC
import AJ.Proofs.LatB
import AJ.Proofs.CoreB
namespace AJ
open AJ.Proofs.ExitB
open AJ.Proofs.CoreA
open AJ.Proofs.ShutB
open AJ.Proofs.LatC
open AJ.Proofs.Gap1
open AJ.Proofs.CoreB
open AJ.Proofs.LatB
open AJ.Run
open AJ.Full
open AJ.Proofs.CoreA
open AJ.Proofs.CoreB
open AJ.Proofs.LatC
open AJ.Proofs.LatB
open AJ.Proofs.BoundB

theorem C05_critical_aborts (c : Cfg) (st st' : StB) (s : Nat) (D : List Nat)
    (h : stepB c st (.react s) = some st') (hrx : st.a.rx s = some D) (hcrit : critIn c st.a D = true) :
    st'.pcB s = .tidy .critical :=
  Proofs.ExitB.critical_aborts c st st' s D h hrx hcrit

theorem C05_exit_cancels_all (c : Cfg) (st st' : StB) (e : EvB) (s : Nat)
    (hB : InvB c st) (h : stepB c st e = some st') (hloop : st.pcB s = .loop) (hleft : st'.pcB s ≠ .loop) :
    (∃ x, st'.pcB s = .tidy x) ∧
    (∀ k ∈ c.children s, (st.a.ph k).live = true → st'.a.creq k = true) ∧
    (∀ k, st'.a.ph k = st.a.ph k) :=
  Proofs.ExitB.exit_cancels_all c st st' e s hB h hloop hleft

theorem C05_no_start_outside_loop (c : Cfg) (hwf : c.wf = true) (st st' : StB) (e : EvB) (s : Nat)
    (hA : InvA c st.a) (hB : InvB c st) (h : stepB c st e = some st')
    (hs : st.pcB s ≠ .loop) (hs2 : st.pcB s ≠ .notBegun) :
    ∀ k ∈ c.children s, st.a.ph k = .idle → st'.a.ph k = .idle :=
  Proofs.ExitB.no_start_outside_loop c hwf st st' e s hA hB h hs hs2

theorem C05_loop_left_for_good (c : Cfg) (st st' : StB) (e : EvB) (s : Nat) (hA : InvA c st.a)
    (hB : InvB c st) (h : stepB c st e = some st') (hs : st.pcB s ≠ .loop) (hs2 : st.pcB s ≠ .notBegun) :
    st'.pcB s ≠ .loop ∧ st'.pcB s ≠ .notBegun :=
  Proofs.ExitB.loop_left_for_good c st st' e s hA hB h hs hs2

theorem C05_step_monotone (c : Cfg) (st st' : StA) (e : EvA) (h : stepA c st e = some st') (j : Nat) :
    (∀ r, st.ph j = .done r → st'.ph j = .done r) ∧
    (isScheduled st j = true → isScheduled st' j = true) ∧
    (isRunning st j = true → isRunning st' j = true) ∧
    (isDone st j = true → isDone st' j = true) :=
  Proofs.CoreA.step_monotone c st st' e h j

theorem C05_shutdown_bounded (c : Cfg) (hwf : c.wf = true) (evs : List EvB) (st : StB)
    (h : acceptB c StB.init evs = some st) (s T : Nat) (hw : (st.bc s).isWait = true)
    (hT : c.sdTimeout s = some T) :
    st.tsd s ≤ st.a.now ∧ st.a.now ≤ st.tsd s + T :=
  Proofs.ShutB.shutdown_bounded c hwf evs st h s T hw hT

theorem C05_exit_no_latency (c : Cfg) (hwf : c.wf = true) (evs : List EvB) (e : EvB) (s : Nat) (st0 st : StB) (x : Exit)
    (h0 : acceptB c StB.init evs = some st0) (h1 : stepB c st0 e = some st)
    (hloop : st0.pcB s = .loop) (hx : st.pcB s = .tidy x) :
    ExitCause c evs e s st0 x :=
  Proofs.LatC.exit_no_latency c hwf evs e s st0 st x h0 h1 hloop hx

theorem C05_exit_cancels_at_once (c : Cfg) (hwf : c.wf = true) (evs : List EvB) (e : EvB) (s : Nat) (st0 st : StB)
    (h0 : acceptB c StB.init evs = some st0) (h1 : stepB c st0 e = some st)
    (hloop : st0.pcB s = .loop) (hleft : st.pcB s ≠ .loop) :
    ∃ x, st.pcB s = .tidy x ∧ ExitCause c evs e s st0 x ∧
      (∀ k ∈ c.children s, (st0.a.ph k).live = true → st.a.creq k = true) ∧
      (∀ k, st.a.ph k = st0.a.ph k) :=
  Proofs.LatC.exit_cancels_at_once c hwf evs e s st0 st h0 h1 hloop hleft

theorem C05_no_body_begins_outside_loop (c : Cfg) (hwf : c.wf = true) (st st' : StB) (e : EvB) (s : Nat)
    (hA : InvA c st.a) (hB : InvB c st) (h : stepB c st e = some st')
    (hs : st.pcB s ≠ .loop) (hs2 : st.pcB s ≠ .notBegun) :
    ∀ k ∈ c.children s, st.a.ph k ≠ .running → st'.a.ph k ≠ .running :=
  Proofs.Gap1.no_body_begins_outside_loop c hwf st st' e s hA hB h hs hs2

theorem C05_critical_raise_urgent (c : Cfg) (hwf : c.wf = true) (evs : List EvB) (st : StB)
    (h : acceptB c StB.init evs = some st) (s k : Nat) (hk : k ∈ c.children s) (hc : c.critical k = true)
    (hex : ∃ ex, st.a.ph k = .done (.exc ex)) (hl : st.pcB s = .loop) :
    ∀ d, stepB c st (.tick d) = none :=
  Proofs.Gap1.critical_raise_urgent c hwf evs st h s k hk hc hex hl

theorem C05_no_normal_end_after_exit (c : Cfg) (st : StB) (s : Nat) (hB : InvB c st) (hx : (st.pcB s).exiting = true) :
    ∀ k ∈ c.children s, ∀ ok, stepB c st (.bodyEnd k ok) = none :=
  Proofs.Gap1.no_normal_end_after_exit c st s hB hx

theorem C05_no_normal_end_when_over (c : Cfg) (st : StB) (s : Nat) (hB : InvB c st) (hx : st.pcB s = .over) :
    ∀ k ∈ c.children s, ∀ ok, stepB c st (.bodyEnd k ok) = none :=
  Proofs.Gap1.no_normal_end_when_over c st s hB hx

theorem C05_invB_reach' (c : Cfg) (hwf : c.wf = true) (evs : List EvB) (st : StB)
    (h : acceptB c StB.init evs = some st) :
    InvB c st :=
  Proofs.CoreB.invB_reach c hwf evs st h

theorem C05_end_no_latency_jobs (c : Cfg) (hwf : c.wf = true) (evs : List EvB) (e : EvB) (s : Nat) (st0 st : StB)
    (h0 : acceptB c StB.init evs = some st0) (h1 : stepB c st0 e = some st)
    (hn : st0.pcB s ≠ .over) (ho : st.pcB s = .over) (hne : c.children s ≠ []) :
    ∃ a e0 b, evs = a ++ e0 :: b ∧ wakes c s e0 = true ∧ ∀ x ∈ b, isTick x = false :=
  Proofs.LatB.end_no_latency_jobs c hwf evs e s st0 st h0 h1 hn ho hne

end AJ
