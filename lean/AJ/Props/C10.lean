/-
  C10 — a nested scheduler behaves as one job; nesting is transparent
  Property theorems only (generated by tools/gen_props.py: statements copied verbatim from the
  proved lemmas of AJ/Proofs/CoreB.lean, AJ/Proofs/ExitB.lean, AJ/Proofs/ScopeB.lean, AJ/Proofs/NestB.lean, AJ/Proofs/LatA.lean, AJ/Proofs/LatB.lean, AJ/Proofs/FlatEq.lean, AJ/Proofs/FlatB.lean, AJ/Proofs/FlatC.lean, each proved by the lemma of that name there).
-/
import AJ.Proofs.CoreB
import AJ.Proofs.ExitB
import AJ.Proofs.ScopeB
import AJ.Proofs.NestB
import AJ.Proofs.LatA
import AJ.Proofs.LatB
import AJ.Proofs.FlatEq
import AJ.Proofs.FlatB
import AJ.Proofs.FlatC
namespace AJ
open AJ.Proofs.CoreB
open AJ.Proofs.ExitB
open AJ.Proofs.ScopeB
open AJ.Proofs.NestB
open AJ.Proofs.LatA
open AJ.Proofs.LatB
open AJ.Proofs.FlatEq
open AJ.Proofs.FlatB
open AJ.Proofs.FlatC
open AJ.Proofs.Gap2
open AJ.Run
open AJ.Full
open AJ.Flat
open AJ.Proofs.CoreA
open AJ.Proofs.CoreB
open AJ.Proofs.ScopeB
open AJ.Proofs.NestB
open AJ.Proofs.LatA
open AJ.Proofs.LatB
open AJ.Proofs.BoundB
open AJ.Proofs.FlatEq
open AJ.Proofs.FlatB
open AJ.Proofs.FlatC

theorem C10_stepB_refines (c : Cfg) (st st' : StB) (e : EvB) (h : stepB c st e = some st') :
    st'.a = st.a ∨ ∃ ea, stepA c st.a ea = some st'.a :=
  Proofs.CoreB.stepB_refines c st st' e h

theorem C10_verdict_of_exit (c : Cfg) (st st' : StB) (e : EvB) (s : Nat)
    (hB : InvB c st) (h : stepB c st e = some st')
    (hnot : st.pcB s ≠ .over) (hover : st'.pcB s = .over) (hne : c.children s ≠ []) :
    ∃ x, (st.pcB s).exitOf = some x ∧
      st'.failT s = st.failT s ∧ (x = .timeout → st'.failT s = true) ∧
      (st'.failT s = true → x = .timeout ∨ x = .cancelled) ∧
      st'.failC s = st.failC s ∧ (x = .critical → st'.failC s = true) ∧
      (st'.failC s = true → x = .critical ∨ x = .cancelled) ∧
      (match x with
       | .success => st'.a.ph s = .done (.retBool true)
       | .cancelled => st'.a.ph s = .cancelled
       | .crashed => st'.a.ph s = .done (.exc (.orch s))
       | .timeout => st'.a.ph s =
           if nestable c s && c.critical s then .done (.exc (.tmo s)) else .done (.retBool false)
       | .critical =>
           if nestable c s && c.critical s then
             ∃ k ∈ c.children s, c.critical k = true ∧ ∃ ex, st.a.ph k = .done (.exc ex) ∧ st'.a.ph s = .done (.exc ex)
           else st'.a.ph s = .done (.retBool false)) :=
  Proofs.ExitB.verdict_of_exit c st st' e s hB h hnot hover hne

theorem C10_exitInv_reach (c : Cfg) (hwf : c.wf = true) (evs : List EvB) (st : StB)
    (h : acceptB c StB.init evs = some st) :
    ExitInv c st :=
  Proofs.ExitB.exitInv_reach c hwf evs st h

theorem C10_exit_reason (c : Cfg) (st st' : StB) (e : EvB) (s : Nat) (x : Exit)
    (hB : InvB c st) (h : stepB c st e = some st') (hloop : st.pcB s = .loop) (hx : st'.pcB s = .tidy x) :
    match x with
    | .critical => e = .react s ∧ ∃ D, st.a.rx s = some D ∧ critIn c st.a D = true
    | .success => e = .react s ∧ ∃ D, st.a.rx s = some D ∧ critIn c st.a D = false ∧
        st.nbDone s + (D.filter fun d => !c.forever d).length = nbFinite c s
    | .timeout => ∃ dl, st.deadline s = some dl ∧ dl ≤ st.a.now ∧
        ((e = .timeoutFire s ∧ doneSet c st.a s = []) ∨
         (e = .react s ∧ ∃ D, st.a.rx s = some D ∧ critIn c st.a D = false ∧
            st.nbDone s + (D.filter fun d => !c.forever d).length ≠ nbFinite c s))
    | .cancelled => e = .cancelArrive s
    | .crashed => e = .orchFail s ∧ ∃ D, st.a.rx s = some D :=
  Proofs.ExitB.exit_reason c st st' e s x hB h hloop hx

theorem C10_critical_aborts (c : Cfg) (st st' : StB) (s : Nat) (D : List Nat)
    (h : stepB c st (.react s) = some st') (hrx : st.a.rx s = some D) (hcrit : critIn c st.a D = true) :
    st'.pcB s = .tidy .critical :=
  Proofs.ExitB.critical_aborts c st st' s D h hrx hcrit

theorem C10_window_scoped_B (c : Cfg) (s w : Nat) (st : StB) (e : EvB)
    (hg : ∀ j, e = .grant j → c.parent j ≠ s) (ht : ∀ d, e ≠ .tick d) :
    stepB (setWindow c s w) st e = stepB c st e :=
  Proofs.ScopeB.window_scoped_B c s w st e hg ht

theorem C10_timeout_scoped_B (c : Cfg) (s : Nat) (T : Option Nat) (st : StB) (e : EvB)
    (hb : e ≠ .grant s) (hr : e = .runBegin → s ≠ 0) :
    stepB (setTimeout c s T) st e = stepB c st e :=
  Proofs.ScopeB.timeout_scoped_B c s T st e hb hr

theorem C10_no_end_latency (c : Cfg) (hwf : c.wf = true) (evs : List EvB) (st : StB)
    (h : acceptB c StB.init evs = some st) (hq : quietB c st = true)
    (s : Nat) (hs : s < c.n) (hsch : c.isSched s = true) (hb : st.pcB s ≠ .notBegun)
    (hfin : ∀ k, k ∈ c.children s → Ph.finished (st.a.ph k) = true)
    (hh : ∀ k, k ∈ c.children s → st.hph k ≠ .hactive) :
    st.pcB s = .over :=
  Proofs.NestB.no_end_latency c hwf evs st h hq s hs hsch hb hfin hh

theorem C10_over_is_finished (c : Cfg) (hwf : c.wf = true) (evs : List EvB) (st : StB)
    (h : acceptB c StB.init evs = some st) (s : Nat) (hs : s < c.n) (hs0 : s ≠ 0) (hsch : c.isSched s = true)
    (ho : st.pcB s = .over) :
    Ph.finished (st.a.ph s) = true :=
  Proofs.NestB.over_is_finished c hwf evs st h s hs hs0 hsch ho

theorem C10_no_begin_latency (c : Cfg) (hwf : c.wf = true) (evs : List EvB) (st : StB)
    (h : acceptB c StB.init evs = some st) (hq : quietB c st = true)
    (s : Nat) (hs : s < c.n) (hsch : c.isSched s = true) (hl : st.pcB s = .loop) (hw : c.window s = 0)
    (k : Nat) (hk : k ∈ c.children s) (hreq : c.req k = []) :
    st.a.ph k ≠ .idle ∧ st.a.ph k ≠ .queued :=
  Proofs.NestB.no_begin_latency c hwf evs st h hq s hs hsch hl hw k hk hreq

theorem C10_grant_no_latency (c : Cfg) (hwf : c.wf = true) (evs : List EvA) (j : Nat) (st : StA)
    (h : acceptA c StA.init (evs ++ [.grant j]) = some st) (hj : 0 < j) (hw : c.window (c.parent j) = 0) :
    ∃ a e b, evs = a ++ e :: b ∧ enables c j e = true ∧ ∀ x ∈ b, isTickA x = false :=
  Proofs.LatA.grant_no_latency c hwf evs j st h hj hw

theorem C10_end_no_latency (c : Cfg) (hwf : c.wf = true) (evs : List EvB) (e : EvB) (s : Nat) (st0 st : StB)
    (h0 : acceptB c StB.init evs = some st0) (h1 : stepB c st0 e = some st)
    (hn : st0.pcB s ≠ .over) (ho : st.pcB s = .over) :
    beginsB s e = true ∨
    ∃ a e0 b sta, evs = a ++ e0 :: b ∧ acceptB c StB.init a = some sta ∧ wakesAt c s sta e0 = true ∧
      ∀ x ∈ b, isTick x = false :=
  Proofs.LatB.end_no_latency c hwf evs e s st0 st h0 h1 hn ho

theorem C10_end_no_latency_jobs (c : Cfg) (hwf : c.wf = true) (evs : List EvB) (e : EvB) (s : Nat) (st0 st : StB)
    (h0 : acceptB c StB.init evs = some st0) (h1 : stepB c st0 e = some st)
    (hn : st0.pcB s ≠ .over) (ho : st.pcB s = .over) (hne : c.children s ≠ []) :
    ∃ a e0 b, evs = a ++ e0 :: b ∧ wakes c s e0 = true ∧ ∀ x ∈ b, isTick x = false :=
  Proofs.LatB.end_no_latency_jobs c hwf evs e s st0 st h0 h1 hn ho hne

theorem C10_flat_equations {c : Cfg} {dur : Nat → Nat} {t : Timing}
    (hwf : c.wf = true) (hne : noEmptyNested c = true) (hs : t.Sat c dur)
    {j : Nat} (hj0 : 0 < j) (hjn : j < c.n) (hat : c.isSched j = false) :
    t.B j = max (t.B 0) (sup ((flatReq c c.n j).map fun r => t.B r + dur r)) ∧
    ∀ r ∈ flatReq c c.n j, 0 < r ∧ r < c.n ∧ c.isSched r = false :=
  Proofs.FlatEq.flat_equations hwf hne hs hj0 hjn hat

theorem C10_sat_unique {c : Cfg} {dur : Nat → Nat} {t t' : Timing}
    (hwf : c.wf = true) (hs : t.Sat c dur) (hs' : t'.Sat c dur) (h0 : t.B 0 = t'.B 0) :
    ∀ j, j < c.n → t.B j = t'.B j ∧ t.E j = t'.E j :=
  Proofs.FlatEq.sat_unique hwf hs hs' h0

theorem C10_twin_times {c c' : Cfg} {dur dur' : Nat → Nat} {t t' : Timing} {ρ : Nat → Nat}
    (hwf : c.wf = true) (hne : noEmptyNested c = true)
    (hwf' : c'.wf = true)
    (hflat : ∀ j, 0 < j → j < c'.n → c'.parent j = 0 ∧ c'.isSched j = false)
    (hρ : ∀ j, 0 < j → j < c.n → c.isSched j = false →
      0 < ρ j ∧ ρ j < c'.n ∧ dur' (ρ j) = dur j ∧
      ∀ x, x ∈ c'.req (ρ j) ↔ ∃ r ∈ flatReq c c.n j, x = ρ r)
    (hs : t.Sat c dur) (hs' : t'.Sat c' dur') (h0 : t.B 0 = t'.B 0) :
    ∀ j, 0 < j → j < c.n → c.isSched j = false → t'.B (ρ j) = t.B j ∧ t'.E (ρ j) = t.E j :=
  Proofs.FlatEq.twin_times hwf hne hwf' hflat hρ hs hs' h0

theorem C10_run_sat (c : Cfg) (hwf : c.wf = true) (evs : List EvB) (st : StB)
    (h : acceptB c StB.init evs = some st)
    (hover : st.pcB 0 = .over)
    (hplain : ∀ j, j < c.n → c.window j = 0 ∧ c.timeout j = none ∧ c.forever j = false)
    (hok : ∀ j ok, EvB.bodyEnd j ok ∈ evs → ok = true)
    (hnf : ∀ s, EvB.orchFail s ∉ evs) (hnx : EvB.extCancel ∉ evs)
    (hzero : ∀ a d b sta, evs = a ++ EvB.tick d :: b → acceptB c StB.init a = some sta →
               ∀ k, k < c.n → sta.hph k ≠ .hactive) :
    (timingOf c evs).Sat c (durOf c evs) :=
  Proofs.FlatB.run_sat c hwf evs st h hover hplain hok hnf hnx hzero

theorem C10_flatten_same_times (c c' : Cfg) (evs evs' : List EvB) (ρ : Nat → Nat)
    (p : PlainRun c evs) (p' : PlainRun c' evs')
    (hne : noEmptyNested c = true)
    (hflat : ∀ j, 0 < j → j < c'.n → c'.parent j = 0 ∧ c'.isSched j = false)
    (hρ : ∀ j, 0 < j → j < c.n → c.isSched j = false →
      0 < ρ j ∧ ρ j < c'.n ∧ durOf c' evs' (ρ j) = durOf c evs j ∧
      ∀ x, x ∈ c'.req (ρ j) ↔ ∃ r ∈ flatReq c c.n j, x = ρ r)
    (h0 : (timingOf c evs).B 0 = (timingOf c' evs').B 0) :
    ∀ j, 0 < j → j < c.n → c.isSched j = false →
      (timingOf c' evs').B (ρ j) = (timingOf c evs).B j ∧ (timingOf c' evs').E (ρ j) = (timingOf c evs).E j :=
  Proofs.FlatC.flatten_same_times c c' evs evs' ρ p p' hne hflat hρ h0

theorem C10_plain_run_defined (c : Cfg) (evs : List EvB) (p : PlainRun c evs) (j : Nat) (hj : j < c.n) :
    (∃ t, firstNow c (beganP j) StB.init evs = some t) ∧ (∃ t, firstNow c (endedP j) StB.init evs = some t) ∧
    (timingOf c evs).B j ≤ (timingOf c evs).E j :=
  Proofs.FlatC.plain_run_defined c evs p j hj

theorem C10_plain_runs_same_times (c : Cfg) (evs evs' : List EvB) (p : PlainRun c evs) (p' : PlainRun c evs')
    (hd : ∀ j, durOf c evs' j = durOf c evs j)
    (h0 : (timingOf c evs).B 0 = (timingOf c evs').B 0) :
    ∀ j, j < c.n → (timingOf c evs).B j = (timingOf c evs').B j ∧ (timingOf c evs).E j = (timingOf c evs').E j :=
  Proofs.FlatC.plain_runs_same_times c evs evs' p p' hd h0

theorem C10_noncritical_contained (c : Cfg) (hwf : c.wf = true) (evs : List EvB) (e : EvB) (p : Nat) (st0 st : StB)
    (h0 : acceptB c StB.init evs = some st0) (h1 : stepB c st0 e = some st)
    (hl : st0.pcB p = .loop) (hx : st.pcB p = .tidy .critical) :
    ∃ k ∈ c.children p, c.critical k = true ∧ ∃ ex, st0.a.ph k = .done (.exc ex) :=
  Proofs.Gap2.noncritical_contained c hwf evs e p st0 st h0 h1 hl hx

theorem C10_cancel_scope (c : Cfg) (st st' : StB) (e : EvB) (k : Nat) (h : stepB c st e = some st')
    (h0 : st.a.creq k = false) (h1 : st'.a.creq k = true) :
    (k = 0 ∧ e = .extCancel) ∨ (0 < k ∧ st.pcB (c.parent k) = .loop ∧ st'.pcB (c.parent k) ≠ .loop) :=
  Proofs.Gap2.cancel_scope c st st' e k h h0 h1

end AJ
