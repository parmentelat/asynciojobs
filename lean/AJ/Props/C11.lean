/-
  C11 — clean exit: once a run is over, nothing it started is still running
  Property theorems only (generated by tools/gen_props.py: statements copied verbatim from the
  proved lemmas of AJ/Proofs/ShutB.lean, each proved by the lemma of that name there).
-/
import AJ.Proofs.ShutB
namespace AJ
open AJ.Proofs.ShutB
open AJ.Proofs.Gap3
open AJ.Run
open AJ.Full
open AJ.Proofs.CoreA
open AJ.Proofs.CoreB
open AJ.Proofs.ShutB

theorem C11_over_subtree_quiet (c : Cfg) (hwf : c.wf = true) (evs : List EvB) (st : StB)
    (h : acceptB c StB.init evs = some st) (s : Nat) (hover : st.pcB s = .over) :
    ∀ d, DescOf c s d →
      (st.a.ph d).live = false ∧ st.hph d ≠ .hactive ∧
      (c.isSched d = true →
        (st.pcB d = .notBegun ∨ st.pcB d = .over) ∧ (st.bc d).isWait = false ∧ (st.bc d).isTidy = false) :=
  Proofs.ShutB.over_subtree_quiet c hwf evs st h s hover

theorem C11_over_is_final (c : Cfg) (st st' : StB) (e : EvB) (s : Nat) (hA : InvA c st.a)
    (hB : InvB c st) (h : stepB c st e = some st') (hover : st.pcB s = .over) :
    st'.pcB s = .over :=
  Proofs.ShutB.over_is_final c st st' e s hA hB h hover

theorem C11_top_over_only_ticks (c : Cfg) (hwf : c.wf = true) (evs : List EvB) (st st' : StB) (e : EvB)
    (h : acceptB c StB.init evs = some st) (h0 : st.pcB 0 = .over) (hs : stepB c st e = some st') :
    ∃ d, e = .tick d :=
  Proofs.ShutB.top_over_only_ticks c hwf evs st st' e h h0 hs

theorem C11_over_stays_quiet (c : Cfg) (hwf : c.wf = true) (evs more : List EvB) (st st' : StB) (s : Nat)
    (h : acceptB c StB.init evs = some st) (hover : st.pcB s = .over) (h' : acceptB c st more = some st') :
    st'.pcB s = .over ∧ ∀ d, DescOf c s d → (st'.a.ph d).live = false ∧ st'.hph d ≠ .hactive :=
  Proofs.Gap3.over_stays_quiet c hwf evs more st st' s h hover h'

theorem C11_over_freezes (c : Cfg) (hwf : c.wf = true) (evs more : List EvB) (st st' : StB) (s : Nat)
    (h : acceptB c StB.init evs = some st) (hover : st.pcB s = .over) (h' : acceptB c st more = some st') :
    ∀ d, DescOf c s d → st'.a.ph d = st.a.ph d ∧ st'.a.entries d = st.a.entries d :=
  Proofs.Gap3.over_freezes c hwf evs more st st' s h hover h'

end AJ
