/-
  C12 — eager start: eligible jobs start immediately; a free window slot is never wasted
  Property theorems only (generated by tools/gen_props.py: statements copied verbatim from the
  proved lemmas of AJ/Proofs/CoreA.lean, AJ/Proofs/LatA.lean, each proved by the lemma of that name there).
-/
import AJ.Proofs.CoreA
import AJ.Proofs.LatA
namespace AJ
open AJ.Proofs.CoreA
open AJ.Proofs.LatA
open AJ.Run
open AJ.Proofs.CoreA
open AJ.Proofs.LatA

theorem C12_eager_at_quiescence (c : Cfg) (hwf : c.wf = true) (evs : List EvA) (st st' : StA) (d : Nat)
    (h : acceptA c StA.init evs = some st) (htick : stepA c st (.tick d) = some st')
    (s : Nat) (hs : s < c.n) (hsch : c.isSched s = true) (hloop : st.pc s = .loop) :
    ∀ k ∈ c.children s,
      (st.ph k = .idle → ∃ r ∈ c.req k, (st.ph r).isDone = false) ∧
      (st.ph k = .queued → st.creq k = true ∨ (c.window s ≠ 0 ∧ runningCount c st s = c.window s)) :=
  Proofs.CoreA.eager_at_quiescence c hwf evs st st' d h htick s hs hsch hloop

theorem C12_grant_no_latency (c : Cfg) (hwf : c.wf = true) (evs : List EvA) (j : Nat) (st : StA)
    (h : acceptA c StA.init (evs ++ [.grant j]) = some st) (hj : 0 < j) (hw : c.window (c.parent j) = 0) :
    ∃ a e b, evs = a ++ e :: b ∧ enables c j e = true ∧ ∀ x ∈ b, isTickA x = false :=
  Proofs.LatA.grant_no_latency c hwf evs j st h hj hw

end AJ
