/-
  C15 — cycle detection is exact; topological order is a valid linear extension
  Property theorems only (generated by tools/gen_props.py: statements copied verbatim from the
  proved lemmas of AJ/Proofs/C15.lean, AJ/Proofs/C15Aux.lean, each proved by the lemma of that name there).
-/
import AJ.Proofs.C15
import AJ.Proofs.C15Aux
namespace AJ
open AJ.Proofs.C15
open AJ.Proofs.Gap3

theorem C15_topo_perm (t : T) (s : Nat) (l : List Nat) (hnd : (t.mem s).Nodup)
    (h : topo t s = .ok l) :
    l.Perm (t.mem s) :=
  Proofs.C15.topo_perm t s l hnd h

theorem C15_topo_order (t : T) (s : Nat) (l : List Nat) (h : topo t s = .ok l) :
    ∀ a x b, l = a ++ x :: b → ∀ y ∈ t.req x, y ∈ a :=
  Proofs.C15.topo_order t s l h

theorem C15_topo_never_fuel (t : T) (s : Nat) (ext : List Nat) (hnd : (t.mem s).Nodup) :
    topo t s ext ≠ .error .fuel :=
  Proofs.C15.topo_never_fuel t s ext hnd

theorem C15_topo_iff (t : T) (s : Nat) (hnd : (t.mem s).Nodup) (hcl : Closed t s) :
    (∃ l, topo t s = .ok l) ↔ Acyclic t s :=
  Proofs.C15.topo_iff t s hnd hcl

theorem C15_topo_raises (t : T) (s : Nat) (hnd : (t.mem s).Nodup) (hcl : Closed t s)
    (hcyc : ¬ Acyclic t s) :
    topo t s = .error .cycle :=
  Proofs.C15.topo_raises t s hnd hcl hcyc

theorem C15_check_pure_iff (t : T) (s : Nat) (hnd : (t.mem s).Nodup) (hcl : Closed t s) :
    checkCyclesPure t s = true ↔ Acyclic t s :=
  Proofs.C15.check_pure_iff t s hnd hcl

theorem C15_check_nested_iff (t : T) (fuel s : Nat)
    (hwf : ∀ s', (s' = s ∨ Desc t s s') → t.isSched s' = true →
        (t.mem s').Nodup ∧ Closed t s' ∧ ∀ k ∈ t.mem s', s' < k ∧ k < t.n)
    (hs : s < t.n) (hfuel : t.n - s ≤ fuel) (hsched : t.isSched s = true) :
    checkCyclesNested t fuel s = true ↔
      (Acyclic t s ∧ ∀ s', Desc t s s' → t.isSched s' = true → Acyclic t s') :=
  Proofs.C15.check_nested_iff t fuel s hwf hs hfuel hsched

theorem C15_ids_consecutive (t : T) (fuel s start nxt : Nat) (l : List (Nat × Nat))
    (h : assignIds t fuel s start = .ok (nxt, l)) :
    l.map (·.2) = List.range' start l.length ∧ nxt = start + l.length ∧
    listing t fuel s = .ok (l.map (·.1)) :=
  Proofs.C15.ids_consecutive t fuel s start nxt l h

theorem C15_listing_members (t : T) (fuel s : Nat) (l lt : List Nat)
    (hnd : (t.mem s).Nodup)
    (hwf : ∀ s', (s' = s ∨ Desc t s s') → t.isSched s' = true →
        (t.mem s').Nodup ∧ ∀ k ∈ t.mem s', s' < k ∧ k < t.n)
    (hdisj : ∀ k ∈ t.mem s, ∀ d, Desc t k d → d ∉ t.mem s)
    (h : listing t (fuel + 1) s = .ok l) (ht : topo t s = .ok lt) :
    l.filter (· ∈ t.mem s) = lt :=
  Proofs.C15.listing_members t fuel s l lt hnd hwf hdisj h ht

theorem C15_ids_respect_req (t : T) (fuel s start nxt : Nat) (l : List (Nat × Nat))
    (h : assignIds t fuel s start = .ok (nxt, l)) (hs : t.isSched s = true) (htree : AJ.Proofs.C16.TreeAt t s) :
    ∀ x y ix iy, (x, ix) ∈ l → (y, iy) ∈ l → y ∈ t.req x →
      (∃ p, (p = s ∨ Desc t s p) ∧ x ∈ t.mem p ∧ y ∈ t.mem p) → iy < ix :=
  Proofs.Gap3.ids_respect_req t fuel s start nxt l h hs htree

theorem C15_ids_cover (t : T) (fuel s start nxt : Nat) (l : List (Nat × Nat))
    (h : assignIds t fuel s start = .ok (nxt, l)) (hs : t.isSched s = true) (htree : AJ.Proofs.C16.TreeAt t s) :
    (l.map (·.1)).Nodup ∧ ∀ x, x ∈ l.map (·.1) ↔ Desc t s x :=
  Proofs.Gap3.ids_cover t fuel s start nxt l h hs htree

end AJ
