/-
  C20 — DOT export and listing describe the scheduler tree faithfully
  Property theorems only (generated by tools/gen_props.py: statements copied verbatim from the
  proved lemmas of AJ/Proofs/C20Style.lean, AJ/Proofs/C20.lean, AJ/Proofs/C20Lex.lean, AJ/Proofs/C20Parse.lean, AJ/Proofs/Listing.lean, AJ/Proofs/C15.lean, each proved by the lemma of that name there).
-/
import AJ.Proofs.C20Style
import AJ.Proofs.C20
import AJ.Proofs.C20Lex
import AJ.Proofs.C20Parse
import AJ.Proofs.Listing
import AJ.Proofs.C15
namespace AJ
open AJ.Proofs.C20
open AJ.Proofs.C20Lex
open AJ.Proofs.C20Parse
open AJ.Proofs.Gap4
open AJ.Proofs.C15
open AJ.Proofs.Gap3
open AJ.Proofs.C20Lex
open AJ.Proofs.C20Parse
open AJ.Proofs.C16

theorem C20_quote_roundtrip (s rest : List Char) (h : ∀ c ∈ s, c ≠ '\\') :
    unquoteChars (protectChars s ++ '"' :: rest) = some (s, rest) :=
  Proofs.C20.quote_roundtrip s rest h

theorem C20_protect_no_bare_quote (s : List Char) (h : ∀ c ∈ s, c ≠ '\\') :
    ∀ pre post, protectChars s = pre ++ '"' :: post → pre.getLast? = some '\\' :=
  Proofs.C20.protect_no_bare_quote s h

theorem C20_style_critical (c : RenderCtx) (j : Nat) :
    (∀ v, ("color", v) ∈ styleAttrs c j ↔ v = if c.t.critical j = true then "red" else "black") ∧
    (∀ v, ("penwidth", v) ∈ styleAttrs c j ↔ v = if c.t.critical j = true then "2" else "0.5") ∧
    ((styleAttrs c j).map Prod.fst).Nodup :=
  Proofs.C20.style_critical c j

theorem C20_style_shape (c : RenderCtx) (j : Nat) :
    ("style", ",".intercalate (styleList c j)) ∈ styleAttrs c j ∧ ("shape", "box") ∈ styleAttrs c j ∧
    ("dashed" ∈ styleList c j ↔ c.t.forever j = true) ∧
    ("rounded" ∈ styleList c j ↔ c.t.isSched j = false) :=
  Proofs.C20.style_shape c j

theorem C20_dotBody_nodes (t : T) (F fuel s : Nat) (items : List Item) (l : List Nat)
    (h : dotBody t F fuel s = .ok items) (hl : listing t fuel s = .ok l) :
    items.filterMap (fun i => match i with | .node j => some j | _ => none) = l.filter (fun j => !t.isSched j) ∧
    items.filterMap (fun i => match i with | .openCluster j => some j | _ => none) = l.filter (fun j => t.isSched j) :=
  Proofs.C20.dotBody_nodes t F fuel s items l h hl

theorem C20_dotBody_brackets (t : T) (F fuel s : Nat) (items : List Item)
    (h : dotBody t F fuel s = .ok items) :
    depthOk 0 items = true :=
  Proofs.C20.dotBody_brackets t F fuel s items h

theorem C20_dotBody_edges (t : T) (F fuel s : Nat) (items : List Item) (l : List Nat)
    (h : dotBody t F fuel s = .ok items) (hl : listing t fuel s = .ok l) :
    (items.filterMap edgeKey).Perm (l.flatMap fun x => (t.req x).map fun r => (x, r)) :=
  Proofs.C20.dotBody_edges t F fuel s items l h hl

theorem C20_dotBody_edge_endpoints (t : T) (F fuel s : Nat) (items : List Item)
    (h : dotBody t F fuel s = .ok items) :
    ∀ src dst lh lt, Item.edge src dst lh lt ∈ items →
      (t.isSched src = false ∨ (t.isSched src = true ∧ t.mem src = [] ∧ ∃ c, lt = some c)) ∧
      (t.isSched dst = false ∨ (t.isSched dst = true ∧ t.mem dst = [] ∧ ∃ c, lh = some c)) ∧
      (∀ c, lh = some c → t.isSched c = true) ∧ (∀ c, lt = some c → t.isSched c = true) :=
  Proofs.C20.dotBody_edge_endpoints t F fuel s items h

theorem C20_dotBody_holders (t : T) (F fuel s : Nat) (items : List Item) (l : List Nat)
    (h : dotBody t F fuel s = .ok items) (hl : listing t fuel s = .ok l) :
    items.filterMap (fun i => match i with | .holder j => some j | _ => none) =
      l.filter (fun j => t.isSched j && ((t.mem j).isEmpty && (anchorsOf t items).contains j)) :=
  Proofs.C20.dotBody_holders t F fuel s items l h hl

theorem C20_dotBody_holder_place (t : T) (F fuel s : Nat) (items : List Item)
    (h : dotBody t F fuel s = .ok items) :
    ∀ pre j post, items = pre ++ Item.holder j :: post →
      (∃ pre', pre = pre' ++ [Item.openCluster j]) ∧ ∃ post', post = Item.close :: post' :=
  Proofs.C20.dotBody_holder_place t F fuel s items h

theorem C20_dotBody_total (t : T) (F fuel s : Nat) (l : List Nat)
    (hs : t.isSched s = true)
    (hwf : ∀ s', (s' = s ∨ Desc t s s') → t.isSched s' = true → ∀ k ∈ t.mem s', s' < k ∧ k < t.n)
    (hF : t.n ≤ F)
    (hl : listing t fuel s = .ok l) :
    ∃ items, dotBody t F fuel s = .ok items :=
  Proofs.C20.dotBody_total t F fuel s l hs hwf hF hl

theorem C20_dotItems_total (t : T) (fuel s nxt : Nat) (ids : List (Nat × Nat))
    (hs : t.isSched s = true)
    (hwf : ∀ s', (s' = s ∨ Desc t s s') → t.isSched s' = true → ∀ k ∈ t.mem s', s' < k ∧ k < t.n)
    (hF : t.n ≤ fuel)
    (hids : assignIds t fuel s 1 = .ok (nxt, ids)) :
    ∃ items, dotItems t fuel s = .ok items :=
  Proofs.C20.dotItems_total t fuel s nxt ids hs hwf hF hids

theorem C20_holder_iff_anchored (t : T) (F fuel s : Nat) (items : List Item)
    (h : dotBody t F fuel s = .ok items) (j : Nat) :
    Item.holder j ∈ items ↔
      Item.openCluster j ∈ items ∧ t.mem j = [] ∧
        ∃ src dst lh lt, Item.edge src dst lh lt ∈ items ∧ (src = j ∨ dst = j) :=
  Proofs.C20.holder_iff_anchored t F fuel s items h j

theorem C20_edge_endpoint_has_node (t : T) (F fuel s : Nat) (items : List Item)
    (h : dotBody t F fuel s = .ok items) :
    ∀ src dst lh lt, Item.edge src dst lh lt ∈ items →
      (t.isSched src = true → Item.holder src ∈ items) ∧
      (t.isSched dst = true → Item.holder dst ∈ items) :=
  Proofs.C20.edge_endpoint_has_node t F fuel s items h

theorem C20_style_color (c : RenderCtx) (j : Nat) :
    (∃ v, ("color", v) ∈ styleAttrs c j) ∧
    (("color", "red") ∈ styleAttrs c j ↔ c.t.critical j = true) ∧
    (("color", "black") ∈ styleAttrs c j ↔ c.t.critical j = false) ∧
    (("penwidth", "2") ∈ styleAttrs c j ↔ c.t.critical j = true) ∧
    (("penwidth", "0.5") ∈ styleAttrs c j ↔ c.t.critical j = false) :=
  Proofs.C20.style_color c j

theorem C20_cluster_color_explicit (c : RenderCtx) (s : Nat) :
    ∃ v, ("color", v) ∈ styleAttrs c s ∧ v = (if c.t.critical s = true then "red" else "black") :=
  Proofs.C20.cluster_color_explicit c s

theorem C20_render_lexes (c : RenderCtx) (items : List Item)
    (hlab : ∀ j, ∀ ch ∈ (c.label j).toList, ch ≠ '\\') (hw : 0 < c.w) :
    lexString (render c items) = some (docToks c items) :=
  Proofs.C20Lex.render_lexes c items hlab hw

theorem C20_docToks_parse (c : RenderCtx) (items : List Item) (hb : depthOk 0 items = true) :
    parseDot (docToks c items) = some (some "asynciojobs".toList, docStmts c items) :=
  Proofs.C20Parse.docToks_parse c items hb

theorem C20_render_parses (c : RenderCtx) (items : List Item)
    (hlab : ∀ j, ∀ ch ∈ (c.label j).toList, ch ≠ '\\') (hw : 0 < c.w) (hb : depthOk 0 items = true) :
    parseString (render c items) = some (some "asynciojobs".toList, docStmts c items) :=
  Proofs.C20Parse.render_parses c items hlab hw hb

theorem C20_dot_format_parses (c : RenderCtx) (F fuel s : Nat) (items : List Item)
    (h : dotBody c.t F fuel s = .ok items)
    (hlab : ∀ j, ∀ ch ∈ (c.label j).toList, ch ≠ '\\') (hw : 0 < c.w) :
    parseString (render c items) = some (some "asynciojobs".toList, docStmts c items) :=
  Proofs.C20Parse.dot_format_parses c F fuel s items h hlab hw

theorem C20_cluster_color_parsed (c : RenderCtx) (items : List Item) (s : Nat) (h : Item.openCluster s ∈ items) :
    ∃ as, [DStmt.openSub (some (clusterName c s).toList), .assign "compound".toList "true".toList,
        .attr "graph".toList as] <:+: docStmts c items ∧
      ("color".toList, (if c.t.critical s = true then "red" else "black").toList) ∈ as :=
  Proofs.C20Parse.cluster_color_parsed c items s h

theorem C20_listing_exact (t : T) (fuel s : Nat) (l : List Nat) (hs : t.isSched s = true) (htree : TreeAt t s)
    (hnd : ∀ s', (s' = s ∨ Desc t s s') → (t.mem s').Nodup) (h : listing t fuel s = .ok l) :
    l.Nodup ∧ ∀ x, x ∈ l ↔ Desc t s x :=
  Proofs.Gap4.listing_exact t fuel s l hs htree hnd h

theorem C20_dotBody_parent (t : T) (F fuel s : Nat) (items : List Item) (h : dotBody t F fuel s = .ok items) :
    ∀ pre i post, items = pre ++ i :: post →
      (∀ x, (i = .node x ∨ i = .openCluster x) → x ∈ t.mem ((openStack [] pre).head?.getD s)) ∧
      (∀ x, i = .holder x → (openStack [] pre).head? = some x) :=
  Proofs.Gap4.dotBody_parent t F fuel s items h

theorem C20_ids_unique (c : RenderCtx) (fuel s nxt : Nat) (ids : List (Nat × Nat))
    (h : assignIds c.t fuel s 1 = .ok (nxt, ids)) (hc : ∀ p ∈ ids, c.idOf p.1 = p.2) (hnd : (ids.map (·.1)).Nodup) :
    ∀ x ∈ ids.map (·.1), ∀ y ∈ ids.map (·.1), c.rid x = c.rid y → x = y :=
  Proofs.Gap4.ids_unique c fuel s nxt ids h hc hnd

theorem C20_listing_total (t : T) (fuel s : Nat) (hs : t.isSched s = true) (hlt : s < t.n) (hfuel : t.n - s ≤ fuel) (htree : TreeAt t s)
    (hok : ∀ s', (s' = s ∨ Desc t s s') → t.isSched s' = true → (t.mem s').Nodup ∧ Closed t s' ∧ Acyclic t s') :
    ∃ l, listing t fuel s = .ok l :=
  Proofs.Gap4.listing_total t fuel s hs hlt hfuel htree hok

theorem C20_edge_physical (t : T) (F fuel s : Nat) (items : List Item) (h : dotBody t F fuel s = .ok items)
    (hcl : ∀ s', (s' = s ∨ Desc t s s') → t.isSched s' = true → Closed t s') :
    ∀ src dst lh lt, Item.edge src dst lh lt ∈ items →
      (t.isSched src = false → Item.node src ∈ items) ∧ (t.isSched dst = false → Item.node dst ∈ items) ∧
      (∀ c, lt = some c → src = c ∨ Desc t c src) ∧ (∀ c, lh = some c → dst = c ∨ Desc t c dst) :=
  Proofs.Gap4.edge_physical t F fuel s items h hcl

theorem C20_ids_consecutive (t : T) (fuel s start nxt : Nat) (l : List (Nat × Nat))
    (h : assignIds t fuel s start = .ok (nxt, l)) :
    l.map (·.2) = List.range' start l.length ∧ nxt = start + l.length ∧
    listing t fuel s = .ok (l.map (·.1)) :=
  Proofs.C15.ids_consecutive t fuel s start nxt l h

theorem C20_listing_members (t : T) (fuel s : Nat) (l lt : List Nat)
    (hnd : (t.mem s).Nodup)
    (hwf : ∀ s', (s' = s ∨ Desc t s s') → t.isSched s' = true →
        (t.mem s').Nodup ∧ ∀ k ∈ t.mem s', s' < k ∧ k < t.n)
    (hdisj : ∀ k ∈ t.mem s, ∀ d, Desc t k d → d ∉ t.mem s)
    (h : listing t (fuel + 1) s = .ok l) (ht : topo t s = .ok lt) :
    l.filter (· ∈ t.mem s) = lt :=
  Proofs.C15.listing_members t fuel s l lt hnd hwf hdisj h ht

theorem C20_ids_respect_req (t : T) (fuel s start nxt : Nat) (l : List (Nat × Nat))
    (h : assignIds t fuel s start = .ok (nxt, l)) (hs : t.isSched s = true) (htree : AJ.Proofs.C16.TreeAt t s) :
    ∀ x y ix iy, (x, ix) ∈ l → (y, iy) ∈ l → y ∈ t.req x →
      (∃ p, (p = s ∨ Desc t s p) ∧ x ∈ t.mem p ∧ y ∈ t.mem p) → iy < ix :=
  Proofs.Gap3.ids_respect_req t fuel s start nxt l h hs htree

theorem C20_ids_cover (t : T) (fuel s start nxt : Nat) (l : List (Nat × Nat))
    (h : assignIds t fuel s start = .ok (nxt, l)) (hs : t.isSched s = true) (htree : AJ.Proofs.C16.TreeAt t s) :
    (l.map (·.1)).Nodup ∧ ∀ x, x ∈ l.map (·.1) ↔ Desc t s x :=
  Proofs.Gap3.ids_cover t fuel s start nxt l h hs htree

end AJ
