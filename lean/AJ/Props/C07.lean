/-
  C07 — a window of N is never exceeded, and is scoped to its own scheduler
  Property theorems only (generated by tools/gen_props.py: statements copied verbatim from the
  proved lemmas of AJ/Proofs/CoreA.lean, AJ/Proofs/ScopeB.lean, each proved by the lemma of that name there).
-/
import AJ.Proofs.CoreA
import AJ.Proofs.ScopeB
namespace AJ
open AJ.Proofs.CoreA
open AJ.Proofs.ScopeB
open AJ.Proofs.Gap2
open AJ.Run
open AJ.Proofs.CoreA
open AJ.Proofs.ScopeB
open AJ.Full

theorem C07_window_respected (c : Cfg) (hwf : c.wf = true) (evs : List EvA) (st : StA)
    (h : acceptA c StA.init evs = some st) (s : Nat) (hs : s < c.n) (hsch : c.isSched s = true)
    (hw : c.window s ≠ 0) :
    runningCount c st s ≤ c.window s :=
  Proofs.CoreA.window_respected c hwf evs st h s hs hsch hw

theorem C07_window_respected_lax (c : Cfg) (hwf : c.wf = true) (evs : List EvA) (st : StA)
    (h : acceptAL c StA.init evs = some st) (s : Nat) (hs : s < c.n) (hsch : c.isSched s = true)
    (hw : c.window s ≠ 0) :
    runningCount c st s ≤ c.window s :=
  Proofs.LaxA.window_respected c hwf evs st h s hs hsch hw

theorem C07_window_scoped_A (c : Cfg) (s w : Nat) (st : StA) (e : EvA)
    (hg : ∀ j, e = .grant j → c.parent j ≠ s) (ht : ∀ d, e ≠ .tick d) :
    stepA (setWindow c s w) st e = stepA c st e :=
  Proofs.ScopeB.window_scoped_A c s w st e hg ht

theorem C07_window_monotone (c : Cfg) (s w w' : Nat) (st st' : StA) (j : Nat)
    (h : stepA (setWindow c s w) st (.grant j) = some st') (hw : w' = 0 ∨ (w ≠ 0 ∧ w ≤ w')) :
    stepA (setWindow c s w') st (.grant j) = some st' :=
  Proofs.ScopeB.window_monotone c s w w' st st' j h hw

theorem C07_window_scoped_tick (c : Cfg) (s w : Nat) (st : StA) (d : Nat)
    (hq : ∀ j, c.parent j = s → st.ph j ≠ .queued) :
    stepA (setWindow c s w) st (.tick d) = stepA c st (.tick d) :=
  Proofs.Gap2.window_scoped_tick c s w st d hq

end AJ
