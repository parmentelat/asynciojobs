/-
  C13 — shutdown reaches every job exactly once, at its scheduler's end, in bounded time
  Property theorems only (generated by tools/gen_props.py: statements copied verbatim from the
  proved lemmas of AJ/Proofs/ShutB.lean, each proved by the lemma of that name there).
-/
import AJ.Proofs.ShutB
namespace AJ
open AJ.Proofs.ShutB
open AJ.Proofs.Gap3
open AJ.Run
open AJ.Full
open AJ.Proofs.CoreA
open AJ.Proofs.CoreB
open AJ.Proofs.ShutB

theorem C13_shutdown_when_quiet (c : Cfg) (hwf : c.wf = true) (st st' : StB) (e : EvB) (k : Nat)
    (hA : InvA c st.a) (hB : InvB c st) (h : stepB c st e = some st') (hk : st'.hcalls k ≠ st.hcalls k) :
    0 < k ∧ k < c.n ∧ st'.hcalls k = 1 ∧ ∀ k' ∈ c.children (c.parent k), (st.a.ph k').live = false :=
  Proofs.ShutB.shutdown_when_quiet c hwf st st' e k hA hB h hk

theorem C13_shutdown_once_at_end (c : Cfg) (hwf : c.wf = true) (evs : List EvB) (st : StB)
    (h : acceptB c StB.init evs = some st) (s : Nat) (hover : st.pcB s = .over) (hne : c.children s ≠ []) :
    ∀ d, DescOf c s d → st.hcalls d = 1 :=
  Proofs.ShutB.shutdown_once_at_end c hwf evs st h s hover hne

theorem C13_shutdown_bounded (c : Cfg) (hwf : c.wf = true) (evs : List EvB) (st : StB)
    (h : acceptB c StB.init evs = some st) (s T : Nat) (hw : (st.bc s).isWait = true)
    (hT : c.sdTimeout s = some T) :
    st.tsd s ≤ st.a.now ∧ st.a.now ≤ st.tsd s + T :=
  Proofs.ShutB.shutdown_bounded c hwf evs st h s T hw hT

theorem C13_shutdown_expiry_cancels (c : Cfg) (st st' : StB) (s : Nat)
    (h : stepB c st (.sdTimeoutFire s) = some st') :
    (∀ k ∈ c.children s, st.hph k = .hactive → st'.hcreq k = true) ∧ (st'.bc s).isTidy = true ∧ st'.a.now = st.a.now :=
  Proofs.ShutB.shutdown_expiry_cancels c st st' s h

theorem C13_sdvalue_truthful (c : Cfg) (st st' : StB) (e : EvB) (s : Nat) (b : Bool)
    (h : stepB c st e = some st') (hv : st'.sdValue s = some b) (hchg : st.sdValue s ≠ some b) :
    (b = true → ∃ p, e = .sdWaitReturn s p) ∧ (b = false → ∃ p, e = .sdTidyReturn s p) :=
  Proofs.ShutB.sdvalue_truthful c st st' e s b h hv hchg

theorem C13_shutdown_idempotent (c : Cfg) (hwf : c.wf = true) (st st' : StB) (e : EvB) (s : Nat)
    (hA : InvA c st.a) (hB : InvB c st) (h : stepB c st e = some st') (hdid : st.didSd s = true) :
    ∀ k ∈ c.children s, st'.hcalls k = st.hcalls k :=
  Proofs.ShutB.shutdown_idempotent c hwf st st' e s hA hB h hdid

theorem C13_sdvalue_true_means (c : Cfg) (hwf : c.wf = true) (evs : List EvB) (st : StB)
    (h : acceptB c StB.init evs = some st) (s : Nat) (hv : st.sdValue s = some true) :
    ∀ k ∈ c.children s, st.hph k = .hdone ∧ st.hcreq k = false :=
  Proofs.Gap3.sdvalue_true_means c hwf evs st h s hv

theorem C13_sdvalue_false_means (c : Cfg) (hwf : c.wf = true) (evs : List EvB) (st : StB)
    (h : acceptB c StB.init evs = some st) (s : Nat) (hv : st.sdValue s = some false) :
    (∃ k ∈ c.children s, st.hph k = .hcancelled ∨
        (c.isSched k = true ∧ st.didSd k = true ∧ st.hph k = .hdone ∧ st.hcreq k = true)) ∨
      st.carrived s = true ∨ st.hcarrived s = true :=
  Proofs.Gap3.sdvalue_false_means c hwf evs st h s hv

theorem C13_shut_down_stays_quiet (c : Cfg) (hwf : c.wf = true) (evs : List EvB) (st : StB) (s : Nat)
    (h : acceptB c StB.init evs = some st) (hd : st.didSd s = true) :
    ∀ k ∈ c.children s, (st.a.ph k).live = false :=
  Proofs.Gap3.shut_down_stays_quiet c hwf evs st s h hd

theorem C13_shut_down_stays_quiet_later (c : Cfg) (hwf : c.wf = true) (evs more : List EvB) (st st' : StB) (s : Nat)
    (h : acceptB c StB.init evs = some st) (hd : st.didSd s = true) (h' : acceptB c st more = some st') :
    st'.didSd s = true ∧ ∀ k ∈ c.children s, (st'.a.ph k).live = false :=
  Proofs.Gap3.shut_down_stays_quiet_later c hwf evs more st st' s h hd h'

theorem C13_shut_down_freezes (c : Cfg) (hwf : c.wf = true) (evs more : List EvB) (st st' : StB) (s : Nat)
    (h : acceptB c StB.init evs = some st) (hd : st.didSd s = true) (h' : acceptB c st more = some st') :
    ∀ k ∈ c.children s, st'.a.ph k = st.a.ph k ∧ st'.a.entries k = st.a.entries k :=
  Proofs.Gap3.shut_down_freezes c hwf evs more st st' s h hd h'

theorem C13_broadcast_guarded (c : Cfg) (st st' : StB) (e : EvB) (s : Nat) (h : stepB c st e = some st')
    (hd : st.didSd s = true) :
    ∀ k ∈ c.children s, st'.hcalls k = st.hcalls k :=
  Proofs.Gap3.broadcast_guarded c st st' e s h hd

theorem C13_broadcast_guarded_later (c : Cfg) (more : List EvB) (st st' : StB) (s : Nat) (hd : st.didSd s = true)
    (h' : acceptB c st more = some st') :
    ∀ k ∈ c.children s, st'.hcalls k = st.hcalls k :=
  Proofs.Gap3.broadcast_guarded_later c more st st' s hd h'

end AJ
