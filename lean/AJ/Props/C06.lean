/-
  C06 — non-critical failures are contained: the rest of the run is unaffected
  Property theorems only (generated by tools/gen_props.py: statements copied verbatim from the
  proved lemmas of AJ/Proofs/SimB.lean, each proved by the lemma of that name there).
-/
import AJ.Proofs.SimB
namespace AJ
open AJ.Proofs.SimB
open AJ.Proofs.Gap2
open AJ.Run
open AJ.Full
open AJ.Proofs.SimB

theorem C06_containment (c : Cfg) (k : Nat) (hk : c.critical k = false) (hatom : c.isSched k = false)
    (evs : List EvB) (st : StB) (h : acceptB c StB.init evs = some st) :
    ∃ st', acceptB c StB.init (evs.map (flipEv k)) = some st' ∧ norm k st' = norm k st :=
  Proofs.SimB.containment c k hk hatom evs st h

theorem C06_exception_kept (c : Cfg) (k : Nat) (hatom : c.isSched k = false)
    (evs : List EvB) (st : StB) (h : acceptB c StB.init evs = some st)
    (hin : EvB.bodyEnd k false ∈ evs) :
    st.a.ph k = .done (.exc (.byJob k)) :=
  Proofs.SimB.exception_kept c k hatom evs st h hin

theorem C06_containment_list (c : Cfg) (K : List Nat) (hK : ∀ k ∈ K, c.critical k = false ∧ c.isSched k = false)
    (evs : List EvB) (st : StB) (h : acceptB c StB.init evs = some st) :
    ∃ st', acceptB c StB.init (evs.map (flipEvs K)) = some st' ∧ normL K st' = normL K st :=
  Proofs.Gap2.containment_list c K hK evs st h

end AJ
