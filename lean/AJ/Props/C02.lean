/-
  C02 — success means every non-forever job ran exactly once; no job ever runs twice
  Property theorems only (generated by tools/gen_props.py: statements copied verbatim from the
  proved lemmas of AJ/Proofs/HistA.lean, AJ/Proofs/CoreB.lean, AJ/Proofs/ExitB.lean, AJ/Proofs/CoreA.lean, each proved by the lemma of that name there).
-/
import AJ.Proofs.HistA
import AJ.Proofs.CoreB
import AJ.Proofs.ExitB
import AJ.Proofs.CoreA
namespace AJ
open AJ.Proofs.HistA
open AJ.Proofs.CoreB
open AJ.Proofs.ExitB
open AJ.Proofs.Gap1
open AJ.Run
open AJ.Full
open AJ.Proofs.CoreA
open AJ.Proofs.CoreB

theorem C02_at_most_once (c : Cfg) (hwf : c.wf = true) (evs : List EvA) (st : StA)
    (h : acceptA c StA.init evs = some st) (j : Nat) :
    beginCount evs j ≤ 1 :=
  Proofs.HistA.at_most_once c hwf evs st h j

theorem C02_acceptB_refines (c : Cfg) (evs : List EvB) (st0 st : StB) (h : acceptB c st0 evs = some st) :
    ∃ evsA, acceptA c st0.a evsA = some st.a :=
  Proofs.CoreB.acceptB_refines c evs st0 st h

theorem C02_exitInv_reach (c : Cfg) (hwf : c.wf = true) (evs : List EvB) (st : StB)
    (h : acceptB c StB.init evs = some st) :
    ExitInv c st :=
  Proofs.ExitB.exitInv_reach c hwf evs st h

theorem C02_at_most_once_lax (c : Cfg) (evs : List EvA) (st : StA)
    (h : acceptAL c StA.init evs = some st) (j : Nat) :
    beginCount evs j ≤ 1 :=
  Proofs.LaxA.at_most_once c evs st h j

theorem C02_true_means_each_once (c : Cfg) (hwf : c.wf = true) (evs : List EvB) (st : StB)
    (h : acceptB c StB.init evs = some st) (s : Nat) (hs : s < c.n) (hsch : c.isSched s = true)
    (ht : st.a.ph s = .done (.retBool true)) :
    ∀ k ∈ c.children s, c.forever k = false →
      (evs.filter fun e => match e with | .grant j => j == k | _ => false).length = 1 ∧
      (st.a.ph k).isDone = true ∧ (c.critical k = true → ∀ ex, st.a.ph k ≠ .done (.exc ex)) :=
  Proofs.Gap1.true_means_each_once c hwf evs st h s hs hsch ht

theorem C02_acceptB_refines_hist (c : Cfg) (evs : List EvB) (st0 st : StB) (h : acceptB c st0 evs = some st) :
    ∃ evsA, acceptA c st0.a evsA = some st.a ∧
      ∀ j, beginCount evsA j =
        (evs.filter fun e => match e with | .grant k => k == j | .runBegin => j == 0 | _ => false).length :=
  Proofs.Gap1.acceptB_refines_hist c evs st0 st h

theorem C02_no_double_create (c : Cfg) (hwf : c.wf = true) (evs : List EvA) (st : StA)
    (h : acceptAL c StA.init evs = some st) :
    st.dbl = false ∧ ∀ j, st.entries j ≤ 1 :=
  Proofs.Gap1.no_double_create c hwf evs st h

end AJ
