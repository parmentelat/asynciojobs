/-
  C04 — the verdict of a run, and its diagnosis, are exactly determined by what happened
  Property theorems only (generated by tools/gen_props.py: statements copied verbatim from the
  proved lemmas of AJ/Proofs/ExitB.lean, AJ/Proofs/LatC.lean, AJ/Proofs/CoreB.lean, AJ/Proofs/WhyB.lean, each proved by the lemma of that name there).
-/
import AJ.Proofs.ExitB
import AJ.Proofs.LatC
import AJ.Proofs.CoreB
import AJ.Proofs.WhyB
namespace AJ
open AJ.Proofs.ExitB
open AJ.Proofs.Gap1
open AJ.Proofs.CoreB
open AJ.Proofs.WhyB
open AJ.Run
open AJ.Full
open AJ.Proofs.CoreA
open AJ.Proofs.CoreB
open AJ.Proofs.LatC

theorem C04_verdict_of_exit (c : Cfg) (st st' : StB) (e : EvB) (s : Nat)
    (hB : InvB c st) (h : stepB c st e = some st')
    (hnot : st.pcB s ≠ .over) (hover : st'.pcB s = .over) (hne : c.children s ≠ []) :
    ∃ x, (st.pcB s).exitOf = some x ∧
      st'.failT s = st.failT s ∧ (x = .timeout → st'.failT s = true) ∧
      (st'.failT s = true → x = .timeout ∨ x = .cancelled) ∧
      st'.failC s = st.failC s ∧ (x = .critical → st'.failC s = true) ∧
      (st'.failC s = true → x = .critical ∨ x = .cancelled) ∧
      (match x with
       | .success => st'.a.ph s = .done (.retBool true)
       | .cancelled => st'.a.ph s = .cancelled
       | .crashed => st'.a.ph s = .done (.exc (.orch s))
       | .timeout => st'.a.ph s =
           if nestable c s && c.critical s then .done (.exc (.tmo s)) else .done (.retBool false)
       | .critical =>
           if nestable c s && c.critical s then
             ∃ k ∈ c.children s, c.critical k = true ∧ ∃ ex, st.a.ph k = .done (.exc ex) ∧ st'.a.ph s = .done (.exc ex)
           else st'.a.ph s = .done (.retBool false)) :=
  Proofs.ExitB.verdict_of_exit c st st' e s hB h hnot hover hne

theorem C04_exit_reason (c : Cfg) (st st' : StB) (e : EvB) (s : Nat) (x : Exit)
    (hB : InvB c st) (h : stepB c st e = some st') (hloop : st.pcB s = .loop) (hx : st'.pcB s = .tidy x) :
    match x with
    | .critical => e = .react s ∧ ∃ D, st.a.rx s = some D ∧ critIn c st.a D = true
    | .success => e = .react s ∧ ∃ D, st.a.rx s = some D ∧ critIn c st.a D = false ∧
        st.nbDone s + (D.filter fun d => !c.forever d).length = nbFinite c s
    | .timeout => ∃ dl, st.deadline s = some dl ∧ dl ≤ st.a.now ∧
        ((e = .timeoutFire s ∧ doneSet c st.a s = []) ∨
         (e = .react s ∧ ∃ D, st.a.rx s = some D ∧ critIn c st.a D = false ∧
            st.nbDone s + (D.filter fun d => !c.forever d).length ≠ nbFinite c s))
    | .cancelled => e = .cancelArrive s
    | .crashed => e = .orchFail s ∧ ∃ D, st.a.rx s = some D :=
  Proofs.ExitB.exit_reason c st st' e s x hB h hloop hx

theorem C04_critical_aborts (c : Cfg) (st st' : StB) (s : Nat) (D : List Nat)
    (h : stepB c st (.react s) = some st') (hrx : st.a.rx s = some D) (hcrit : critIn c st.a D = true) :
    st'.pcB s = .tidy .critical :=
  Proofs.ExitB.critical_aborts c st st' s D h hrx hcrit

theorem C04_last_regular_ends (c : Cfg) (st st' : StB) (s : Nat) (D : List Nat)
    (h : stepB c st (.react s) = some st') (hrx : st.a.rx s = some D) (hcrit : critIn c st.a D = false)
    (hcnt : st.nbDone s + (D.filter fun d => !c.forever d).length = nbFinite c s) :
    st'.pcB s = .tidy .success :=
  Proofs.ExitB.last_regular_ends c st st' s D h hrx hcrit hcnt

theorem C04_exitInv_reach (c : Cfg) (hwf : c.wf = true) (evs : List EvB) (st : StB)
    (h : acceptB c StB.init evs = some st) :
    ExitInv c st :=
  Proofs.ExitB.exitInv_reach c hwf evs st h

theorem C04_diag_stable (c : Cfg) (st st' : StB) (e : EvB) (s : Nat) (hA : InvA c st.a)
    (hB : InvB c st) (h : stepB c st e = some st') (hover : st.pcB s = .over) :
    st'.pcB s = .over ∧ st'.failT s = st.failT s ∧ st'.failC s = st.failC s ∧ st'.a.ph s = st.a.ph s :=
  Proofs.ExitB.diag_stable c st st' e s hA hB h hover

theorem C04_failT_iff_timesOut (c : Cfg) (hwf : c.wf = true) (evs : List EvB) (st : StB)
    (h : acceptB c StB.init evs = some st) (s : Nat) :
    st.failT s = true ↔ timesOut c s evs :=
  Proofs.ExitB.failT_iff_timesOut c hwf evs st h s

theorem C04_expired_reaction_aborts (c : Cfg) (st st' : StB) (s : Nat) (D : List Nat)
    (h : stepB c st (.react s) = some st') (hrx : st.a.rx s = some D) (hcrit : critIn c st.a D = false)
    (hcnt : st.nbDone s + (D.filter fun d => !c.forever d).length ≠ nbFinite c s)
    (hexp : expired (st.deadline s) st.a.now = true) :
    st'.pcB s = .tidy .timeout ∧ st'.failT s = true ∧ (∀ k, st'.a.ph k = st.a.ph k) :=
  Proofs.ExitB.expired_reaction_aborts c st st' s D h hrx hcrit hcnt hexp

theorem C04_failC_iff_critOut (c : Cfg) (hwf : c.wf = true) (evs : List EvB) (st : StB)
    (h : acceptB c StB.init evs = some st) (s : Nat) :
    st.failC s = true ↔ critOut c s evs :=
  Proofs.ExitB.failC_iff_critOut c hwf evs st h s

theorem C04_timeout_exit_unfinished (c : Cfg) (hwf : c.wf = true) (evs : List EvB) (e : EvB) (s : Nat) (st0 st : StB)
    (h0 : acceptB c StB.init evs = some st0) (h1 : stepB c st0 e = some st)
    (hloop : st0.pcB s = .loop) (hx : st.pcB s = .tidy .timeout)
    (hreg : ∃ k ∈ c.children s, c.forever k = false) :
    ∃ k ∈ c.children s, c.forever k = false ∧ ¬ ((st0.a.ph k).isDone = true ∧ st0.a.deliv k = true) :=
  Proofs.Gap1.timeout_exit_unfinished c hwf evs e s st0 st h0 h1 hloop hx hreg

theorem C04_verdict_true_iff (c : Cfg) (hwf : c.wf = true) (evs : List EvB) (st : StB)
    (h : acceptB c StB.init evs = some st) (s : Nat) (hs : s < c.n) (hsch : c.isSched s = true)
    (hover : st.pcB s = .over) (hne : c.children s ≠ []) :
    st.a.ph s = .done (.retBool true) ↔
      ¬ timesOut c s evs ∧ ¬ critOut c s evs ∧ st.a.ph s ≠ .cancelled ∧ st.a.ph s ≠ .done (.exc (.orch s)) :=
  Proofs.Gap1.verdict_true_iff c hwf evs st h s hs hsch hover hne

theorem C04_diag_exclusive (c : Cfg) (hwf : c.wf = true) (evs : List EvB) (st : StB)
    (h : acceptB c StB.init evs = some st) (s : Nat) :
    ¬ (st.failT s = true ∧ st.failC s = true) :=
  Proofs.Gap1.diag_exclusive c hwf evs st h s

theorem C04_success_unreported_same_instant (c : Cfg) (hwf : c.wf = true) (evs : List EvB) (e : EvB) (s k : Nat)
    (st0 st : StB) (h0 : acceptB c StB.init evs = some st0) (h1 : stepB c st0 e = some st)
    (hloop : st0.pcB s = .loop) (hx : st.pcB s = .tidy .success) (hk : k ∈ c.children s)
    (hc : c.critical k = true) (hex : ∃ ex, st0.a.ph k = .done (.exc ex)) :
    st0.a.deliv k = false ∧ CausedAt c evs (fun st e => jobEnds c st k e) :=
  Proofs.Gap1.success_unreported_same_instant c hwf evs e s k st0 st h0 h1 hloop hx hk hc hex

theorem C04_invB_reach' (c : Cfg) (hwf : c.wf = true) (evs : List EvB) (st : StB)
    (h : acceptB c StB.init evs = some st) :
    InvB c st :=
  Proofs.CoreB.invB_reach c hwf evs st h

theorem C04_invA_reach' (c : Cfg) (hwf : c.wf = true) (evs : List EvB) (st : StB)
    (h : acceptB c StB.init evs = some st) :
    InvA c st.a :=
  Proofs.Gap1.invA_reach' c hwf evs st h

theorem C04_why_fine_iff (c : Cfg) (hwf : c.wf = true) (evs : List EvB) (st : StB)
    (h : acceptB c StB.init evs = some st) (s : Nat) :
    st.why c s = .fine ↔ ¬ timesOut c s evs ∧ ¬ critOut c s evs :=
  Proofs.WhyB.why_fine_iff c hwf evs st h s

theorem C04_why_timedOut_iff (c : Cfg) (hwf : c.wf = true) (evs : List EvB) (st : StB)
    (h : acceptB c StB.init evs = some st) (s : Nat) :
    st.why c s = .timedOut (c.timeout s) ↔ timesOut c s evs :=
  Proofs.WhyB.why_timedOut_iff c hwf evs st h s

theorem C04_why_timedOut_value (c : Cfg) (st : StB) (s : Nat) (t : Option Nat)
    (hw : st.why c s = .timedOut t) :
    t = c.timeout s :=
  Proofs.WhyB.why_timedOut_value c st s t hw

theorem C04_why_critical_iff (c : Cfg) (hwf : c.wf = true) (evs : List EvB) (st : StB)
    (h : acceptB c StB.init evs = some st) (s : Nat) :
    st.why c s = .critical ↔ critOut c s evs :=
  Proofs.WhyB.why_critical_iff c hwf evs st h s

theorem C04_why_fine_of_true (c : Cfg) (hwf : c.wf = true) (evs : List EvB) (st : StB)
    (h : acceptB c StB.init evs = some st) (s : Nat) (hs : s < c.n) (hsch : c.isSched s = true)
    (hover : st.pcB s = .over) (hne : c.children s ≠ [])
    (ht : st.a.ph s = .done (.retBool true)) :
    st.why c s = .fine :=
  Proofs.WhyB.why_fine_of_true c hwf evs st h s hs hsch hover hne ht

theorem C04_why_names_cause (c : Cfg) (hwf : c.wf = true) (evs : List EvB) (st : StB)
    (h : acceptB c StB.init evs = some st) (s : Nat) (hs : s < c.n) (hsch : c.isSched s = true)
    (hover : st.pcB s = .over) (hne : c.children s ≠ [])
    (hnt : st.a.ph s ≠ .done (.retBool true)) (hnc : st.a.ph s ≠ .cancelled)
    (hno : st.a.ph s ≠ .done (.exc (.orch s))) :
    (st.why c s = .timedOut (c.timeout s) ∧ timesOut c s evs) ∨ (st.why c s = .critical ∧ critOut c s evs) :=
  Proofs.WhyB.why_names_cause c hwf evs st h s hs hsch hover hne hnt hnc hno

theorem C04_why_cause_kept (c : Cfg) (hwf : c.wf = true) (evs more : List EvB) (st st' : StB)
    (h : acceptB c StB.init evs = some st) (h' : acceptB c StB.init (evs ++ more) = some st') (s : Nat)
    (hw : st.why c s ≠ .fine) :
    st'.why c s ≠ .fine :=
  Proofs.WhyB.why_cause_kept c hwf evs more st st' h h' s hw

theorem C04_why_timedOut_means (c : Cfg) (hwf : c.wf = true) (evs : List EvB) (st : StB)
    (h : acceptB c StB.init evs = some st) (s : Nat) (t : Option Nat) (hw : st.why c s = .timedOut t) :
    ∃ T, t = some T ∧ c.timeout s = some T ∧ st.tbegin s + T ≤ st.a.now :=
  Proofs.WhyB.why_timedOut_means c hwf evs st h s t hw

theorem C04_why_critical_means (c : Cfg) (hwf : c.wf = true) (evs : List EvB) (st : StB)
    (h : acceptB c StB.init evs = some st) (s : Nat) (hw : st.why c s = .critical) :
    ∃ k ∈ c.children s, c.critical k = true ∧ ∃ ex, st.a.ph k = .done (.exc ex) :=
  Proofs.WhyB.why_critical_means c hwf evs st h s hw

theorem C04_why_fine_in_loop (c : Cfg) (hwf : c.wf = true) (evs : List EvB) (st : StB)
    (h : acceptB c StB.init evs = some st) (s : Nat) (hp : st.pcB s = .notBegun ∨ st.pcB s = .loop) :
    st.why c s = .fine :=
  Proofs.WhyB.why_fine_in_loop c hwf evs st h s hp

end AJ
