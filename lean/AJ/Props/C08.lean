/-
  C08 — timeout bounds the run: at expiry everything is cancelled and the run fails
  Property theorems only (generated by tools/gen_props.py: statements copied verbatim from the
  proved lemmas of AJ/Proofs/ExitB.lean, AJ/Proofs/TmoB.lean, AJ/Proofs/LatC.lean, AJ/Proofs/LatB.lean, each proved by the lemma of that name there).
-/
import AJ.Proofs.ExitB
import AJ.Proofs.TmoB
import AJ.Proofs.LatC
import AJ.Proofs.LatB
namespace AJ
open AJ.Proofs.ExitB
open AJ.Proofs.TmoB
open AJ.Proofs.LatC
open AJ.Proofs.Gap2
open AJ.Run
open AJ.Full
open AJ.Proofs.CoreA
open AJ.Proofs.CoreB
open AJ.Proofs.TmoB
open AJ.Proofs.LatC
open AJ.Proofs.LatB
open AJ.Proofs.BoundB

theorem C08_timeout_bounds (c : Cfg) (hwf : c.wf = true) (evs : List EvB) (st : StB)
    (h : acceptB c StB.init evs = some st) (s T : Nat) (hloop : st.pcB s = .loop) (hT : c.timeout s = some T) :
    st.deadline s = some (st.tbegin s + T) ∧ st.a.now ≤ st.tbegin s + T :=
  Proofs.ExitB.timeout_bounds c hwf evs st h s T hloop hT

theorem C08_expiry_enabled (c : Cfg) (st : StB) (s : Nat) (dl : Nat) (hA : InvA c st.a) (hB : InvB c st)
    (hwf : c.wf = true) (hloop : st.pcB s = .loop) (hdl : st.deadline s = some dl) (hnow : dl ≤ st.a.now)
    (hD : doneSet c st.a s = []) (hrx : st.a.rx s = none) (hc : cancelPending st s = false) :
    ∃ st', stepB c st (.timeoutFire s) = some st' :=
  Proofs.ExitB.expiry_enabled c st s dl hA hB hwf hloop hdl hnow hD hrx hc

theorem C08_exit_reason (c : Cfg) (st st' : StB) (e : EvB) (s : Nat) (x : Exit)
    (hB : InvB c st) (h : stepB c st e = some st') (hloop : st.pcB s = .loop) (hx : st'.pcB s = .tidy x) :
    match x with
    | .critical => e = .react s ∧ ∃ D, st.a.rx s = some D ∧ critIn c st.a D = true
    | .success => e = .react s ∧ ∃ D, st.a.rx s = some D ∧ critIn c st.a D = false ∧
        st.nbDone s + (D.filter fun d => !c.forever d).length = nbFinite c s
    | .timeout => ∃ dl, st.deadline s = some dl ∧ dl ≤ st.a.now ∧
        ((e = .timeoutFire s ∧ doneSet c st.a s = []) ∨
         (e = .react s ∧ ∃ D, st.a.rx s = some D ∧ critIn c st.a D = false ∧
            st.nbDone s + (D.filter fun d => !c.forever d).length ≠ nbFinite c s))
    | .cancelled => e = .cancelArrive s
    | .crashed => e = .orchFail s ∧ ∃ D, st.a.rx s = some D :=
  Proofs.ExitB.exit_reason c st st' e s x hB h hloop hx

theorem C08_exit_cancels_all (c : Cfg) (st st' : StB) (e : EvB) (s : Nat)
    (hB : InvB c st) (h : stepB c st e = some st') (hloop : st.pcB s = .loop) (hleft : st'.pcB s ≠ .loop) :
    (∃ x, st'.pcB s = .tidy x) ∧
    (∀ k ∈ c.children s, (st.a.ph k).live = true → st'.a.creq k = true) ∧
    (∀ k, st'.a.ph k = st.a.ph k) :=
  Proofs.ExitB.exit_cancels_all c st st' e s hB h hloop hleft

theorem C08_no_start_outside_loop (c : Cfg) (hwf : c.wf = true) (st st' : StB) (e : EvB) (s : Nat)
    (hA : InvA c st.a) (hB : InvB c st) (h : stepB c st e = some st')
    (hs : st.pcB s ≠ .loop) (hs2 : st.pcB s ≠ .notBegun) :
    ∀ k ∈ c.children s, st.a.ph k = .idle → st'.a.ph k = .idle :=
  Proofs.ExitB.no_start_outside_loop c hwf st st' e s hA hB h hs hs2

theorem C08_verdict_of_exit (c : Cfg) (st st' : StB) (e : EvB) (s : Nat)
    (hB : InvB c st) (h : stepB c st e = some st')
    (hnot : st.pcB s ≠ .over) (hover : st'.pcB s = .over) (hne : c.children s ≠ []) :
    ∃ x, (st.pcB s).exitOf = some x ∧
      st'.failT s = st.failT s ∧ (x = .timeout → st'.failT s = true) ∧
      (st'.failT s = true → x = .timeout ∨ x = .cancelled) ∧
      st'.failC s = st.failC s ∧ (x = .critical → st'.failC s = true) ∧
      (st'.failC s = true → x = .critical ∨ x = .cancelled) ∧
      (match x with
       | .success => st'.a.ph s = .done (.retBool true)
       | .cancelled => st'.a.ph s = .cancelled
       | .crashed => st'.a.ph s = .done (.exc (.orch s))
       | .timeout => st'.a.ph s =
           if nestable c s && c.critical s then .done (.exc (.tmo s)) else .done (.retBool false)
       | .critical =>
           if nestable c s && c.critical s then
             ∃ k ∈ c.children s, c.critical k = true ∧ ∃ ex, st.a.ph k = .done (.exc ex) ∧ st'.a.ph s = .done (.exc ex)
           else st'.a.ph s = .done (.retBool false)) :=
  Proofs.ExitB.verdict_of_exit c st st' e s hB h hnot hover hne

theorem C08_exitInv_reach (c : Cfg) (hwf : c.wf = true) (evs : List EvB) (st : StB)
    (h : acceptB c StB.init evs = some st) :
    ExitInv c st :=
  Proofs.ExitB.exitInv_reach c hwf evs st h

theorem C08_expired_reaction_aborts (c : Cfg) (st st' : StB) (s : Nat) (D : List Nat)
    (h : stepB c st (.react s) = some st') (hrx : st.a.rx s = some D) (hcrit : critIn c st.a D = false)
    (hcnt : st.nbDone s + (D.filter fun d => !c.forever d).length ≠ nbFinite c s)
    (hexp : expired (st.deadline s) st.a.now = true) :
    st'.pcB s = .tidy .timeout ∧ st'.failT s = true ∧ (∀ k, st'.a.ph k = st.a.ph k) :=
  Proofs.ExitB.expired_reaction_aborts c st st' s D h hrx hcrit hcnt hexp

theorem C08_react_goes_on_before_deadline (c : Cfg) (st st' : StB) (s : Nat)
    (h : stepB c st (.react s) = some st') (hgo : st'.pcB s = .loop) :
    expired (st.deadline s) st.a.now = false :=
  Proofs.ExitB.react_goes_on_before_deadline c st st' s h hgo

theorem C08_failT_iff_timesOut (c : Cfg) (hwf : c.wf = true) (evs : List EvB) (st : StB)
    (h : acceptB c StB.init evs = some st) (s : Nat) :
    st.failT s = true ↔ timesOut c s evs :=
  Proofs.ExitB.failT_iff_timesOut c hwf evs st h s

theorem C08_timeout_silent (c : Cfg) (s : Nat) (evs : List EvB) (st : StB)
    (h : acceptB c StB.init evs = some st) (hno : ¬ timesOut c s evs) :
    ∃ st', acceptB (noTimeout c s) StB.init evs = some st' ∧ eraseDl s st' = eraseDl s st :=
  Proofs.TmoB.timeout_silent c s evs st h hno

theorem C08_timeoutFire_needs_expiry (c : Cfg) (st st' : StB) (s : Nat) (h : stepB c st (.timeoutFire s) = some st') :
    ∃ dl, st.deadline s = some dl ∧ dl ≤ st.a.now :=
  Proofs.TmoB.timeoutFire_needs_expiry c st st' s h

theorem C08_timeout_silent_diag (c : Cfg) (hwf : c.wf = true) (s : Nat) (evs : List EvB) (st : StB)
    (h : acceptB c StB.init evs = some st) (hf : st.failT s = false) :
    ∃ st', acceptB (noTimeout c s) StB.init evs = some st' ∧ eraseDl s st' = eraseDl s st :=
  Proofs.TmoB.timeout_silent_diag c hwf s evs st h hf

theorem C08_react_timeout_needs_expiry (c : Cfg) (st st' : StB) (s : Nat) (h : stepB c st (.react s) = some st')
    (hx : st'.pcB s = .tidy .timeout) :
    ∃ dl, st.deadline s = some dl ∧ dl ≤ st.a.now :=
  Proofs.TmoB.react_timeout_needs_expiry c st st' s h hx

theorem C08_exit_no_latency (c : Cfg) (hwf : c.wf = true) (evs : List EvB) (e : EvB) (s : Nat) (st0 st : StB) (x : Exit)
    (h0 : acceptB c StB.init evs = some st0) (h1 : stepB c st0 e = some st)
    (hloop : st0.pcB s = .loop) (hx : st.pcB s = .tidy x) :
    ExitCause c evs e s st0 x :=
  Proofs.LatC.exit_no_latency c hwf evs e s st0 st x h0 h1 hloop hx

theorem C08_exit_cancels_at_once (c : Cfg) (hwf : c.wf = true) (evs : List EvB) (e : EvB) (s : Nat) (st0 st : StB)
    (h0 : acceptB c StB.init evs = some st0) (h1 : stepB c st0 e = some st)
    (hloop : st0.pcB s = .loop) (hleft : st.pcB s ≠ .loop) :
    ∃ x, st.pcB s = .tidy x ∧ ExitCause c evs e s st0 x ∧
      (∀ k ∈ c.children s, (st0.a.ph k).live = true → st.a.creq k = true) ∧
      (∀ k, st.a.ph k = st0.a.ph k) :=
  Proofs.LatC.exit_cancels_at_once c hwf evs e s st0 st h0 h1 hloop hleft

theorem C08_fire_at_deadline (c : Cfg) (hwf : c.wf = true) (evs : List EvB) (s : Nat) (st0 st : StB)
    (h0 : acceptB c StB.init evs = some st0) (h1 : stepB c st0 (.timeoutFire s) = some st) :
    ∃ T, c.timeout s = some T ∧ st0.a.now = st0.tbegin s + T ∧
      ∀ a d b sta, evs = a ++ .tick d :: b → acceptB c StB.init a = some sta → (∀ x ∈ b, isTick x = false) →
        sta.a.now < st0.tbegin s + T ∧ sta.a.now + d = st0.tbegin s + T :=
  Proofs.LatC.fire_at_deadline c hwf evs s st0 st h0 h1

theorem C08_react_timeout_at_deadline (c : Cfg) (hwf : c.wf = true) (evs : List EvB) (s : Nat) (st0 st : StB)
    (h0 : acceptB c StB.init evs = some st0) (h1 : stepB c st0 (.react s) = some st)
    (hx : st.pcB s = .tidy .timeout) :
    ∃ T, c.timeout s = some T ∧ st0.a.now = st0.tbegin s + T ∧
      ∀ a d b sta, evs = a ++ .tick d :: b → acceptB c StB.init a = some sta → (∀ x ∈ b, isTick x = false) →
        sta.a.now < st0.tbegin s + T ∧ sta.a.now + d = st0.tbegin s + T :=
  Proofs.LatC.react_timeout_at_deadline c hwf evs s st0 st h0 h1 hx

theorem C08_timeout_means_unreported (c : Cfg) (hwf : c.wf = true) (evs : List EvB) (e : EvB) (s : Nat) (st0 st : StB)
    (h0 : acceptB c StB.init evs = some st0) (h1 : stepB c st0 e = some st)
    (hloop : st0.pcB s = .loop) (hx : st.pcB s = .tidy .timeout) (hpos : 0 < nbFinite c s) :
    ∃ k ∈ c.children s, c.forever k = false ∧ st0.a.deliv k = false :=
  Proofs.Gap2.timeout_means_unreported c hwf evs e s st0 st h0 h1 hloop hx hpos

theorem C08_timeout_means_regular_pending (c : Cfg) (hwf : c.wf = true) (evs : List EvB) (e : EvB) (s : Nat) (st0 st : StB)
    (h0 : acceptB c StB.init evs = some st0) (h1 : stepB c st0 e = some st)
    (hloop : st0.pcB s = .loop) (hx : st.pcB s = .tidy .timeout) (hpos : 0 < nbFinite c s) :
    ∃ k ∈ c.children s, c.forever k = false ∧
      ∀ a d b sta, evs = a ++ .tick d :: b → acceptB c StB.init a = some sta → (sta.a.ph k).isDone = false :=
  Proofs.Gap2.timeout_means_regular_pending c hwf evs e s st0 st h0 h1 hloop hx hpos

theorem C08_timeout_silent_conv (c : Cfg) (s T : Nat) (hT : c.timeout s = some T) (evs : List EvB) (st' : StB)
    (h : acceptB (noTimeout c s) StB.init evs = some st')
    (hbefore : ∀ pre sta, pre <+: evs → acceptB (noTimeout c s) StB.init pre = some sta → sta.pcB s = .loop →
        sta.a.now < sta.tbegin s + T) :
    ∃ st, acceptB c StB.init evs = some st ∧ eraseDl s st = eraseDl s st' ∧ ¬ timesOut c s evs :=
  Proofs.Gap2.timeout_silent_conv c s T hT evs st' h hbefore

theorem C08_creq_blocks_grant (c : Cfg) (st st' : StB) (j : Nat) (h : stepB c st (.grant j) = some st') :
    st.a.creq j = false :=
  Proofs.Gap2.creq_blocks_grant c st st' j h

theorem C08_grant_only_in_loop (c : Cfg) (hwf : c.wf = true) (evs : List EvB) (st st' : StB) (j : Nat) (hj : 0 < j)
    (h : acceptB c StB.init evs = some st) (hg : stepB c st (.grant j) = some st') :
    st.pcB (c.parent j) = .loop :=
  Proofs.Gap2.grant_only_in_loop c hwf evs st st' j hj h hg

theorem C08_cancel_scope (c : Cfg) (st st' : StB) (e : EvB) (k : Nat) (h : stepB c st e = some st')
    (h0 : st.a.creq k = false) (h1 : st'.a.creq k = true) :
    (k = 0 ∧ e = .extCancel) ∨ (0 < k ∧ st.pcB (c.parent k) = .loop ∧ st'.pcB (c.parent k) ≠ .loop) :=
  Proofs.Gap2.cancel_scope c st st' e k h h0 h1

end AJ
